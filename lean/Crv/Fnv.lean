import Crv.Generated.Store
/-!
FNV-1a 64 exactly as `core/hashing/hashes.go:Sum64`: start from `offset64`, for every byte
`hash ^= byte; hash *= prime64` (mod 2^64), output = the 8 bytes of the hash, little endian.
Offset and prime (and the statement shape of `Sum64`) are regenerated from the source on every run.
-/
namespace Crv

def fnvOffset : BitVec 64 := BitVec.ofNat 64 Generated.Store.fnvOffset
def fnvPrime : BitVec 64 := BitVec.ofNat 64 Generated.Store.fnvPrime

def fnvStep (h : BitVec 64) (b : UInt8) : BitVec 64 := (h ^^^ BitVec.ofNat 64 b.toNat) * fnvPrime

def fnv64 (bs : List UInt8) : BitVec 64 := bs.foldl fnvStep fnvOffset

/-- `binary.LittleEndian.PutUint64` on the value `n < 2^64`. -/
def le8Nat (n : Nat) : List UInt8 :=
  [UInt8.ofNat (n % 256), UInt8.ofNat (n / 256 % 256), UInt8.ofNat (n / 65536 % 256),
   UInt8.ofNat (n / 16777216 % 256), UInt8.ofNat (n / 4294967296 % 256),
   UInt8.ofNat (n / 1099511627776 % 256), UInt8.ofNat (n / 281474976710656 % 256),
   UInt8.ofNat (n / 72057594037927936 % 256)]

def le8 (h : BitVec 64) : List UInt8 := le8Nat h.toNat

/-- `hashing.Sum64(key)` as a byte string. -/
def sum64 (bs : List UInt8) : List UInt8 := le8 (fnv64 bs)

theorem fnv64_nil : fnv64 [] = fnvOffset := rfl

theorem fnv64_append (a b : List UInt8) : fnv64 (a ++ b) = b.foldl fnvStep (fnv64 a) := by
  simp [fnv64, List.foldl_append]

theorem fnv64_snoc (a : List UInt8) (b : UInt8) : fnv64 (a ++ [b]) = fnvStep (fnv64 a) b := by
  simp [fnv64_append]

theorem sum64_length (bs : List UInt8) : (sum64 bs).length = 8 := rfl

-- `le8Nat` is `leBytes 8` (`le8Nat_eq`); `leVal` is its left inverse below `256^k` (`leVal_leBytes`), whence `le8_injective`
def leBytes : Nat → Nat → List UInt8
  | 0, _ => []
  | k + 1, n => UInt8.ofNat (n % 256) :: leBytes k (n / 256)

def leVal : List UInt8 → Nat
  | [] => 0
  | b :: bs => b.toNat + 256 * leVal bs

theorem leVal_leBytes : ∀ (k n : Nat), n < 256 ^ k → leVal (leBytes k n) = n
  | 0, n, h => by
    have : n = 0 := by simpa using h
    subst this
    rfl
  | k + 1, n, h => by
    have hk : n / 256 < 256 ^ k := by
      rw [Nat.div_lt_iff_lt_mul (by decide)]
      rwa [Nat.pow_succ] at h
    rw [leBytes, leVal, leVal_leBytes k _ hk, UInt8.toNat_ofNat', Nat.mod_mod_of_dvd _ (by decide), Nat.mod_add_div]

theorem le8Nat_eq (n : Nat) : le8Nat n = leBytes 8 n := by
  simp [le8Nat, leBytes, Nat.div_div_eq_div_mul]

theorem le8_injective {a b : BitVec 64} (h : le8 a = le8 b) : a = b := by
  have := congrArg leVal h
  simp only [le8, le8Nat_eq] at this
  rw [leVal_leBytes 8 _ a.isLt, leVal_leBytes 8 _ b.isLt] at this
  exact BitVec.eq_of_toNat_eq this

/-- The byte-string form and the 64-bit value carry the same information. -/
theorem sum64_eq_iff (a b : List UInt8) : sum64 a = sum64 b ↔ fnv64 a = fnv64 b :=
  ⟨fun h => le8_injective h, fun h => by simp [sum64, h]⟩

end Crv
