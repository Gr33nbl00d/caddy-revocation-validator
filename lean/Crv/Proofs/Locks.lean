import Crv.Locks
/-!
Facts about the lock semantics of `Crv.Locks`, for every system of programs. Also here, because C13 decides
`sys.consistent` through it: `edgesOk`, which evaluates `Sys.consistent` in one walk down each program (`Sys.consistent_eq`).
-/
namespace Crv.Locks

theorem map_erase_inj {α β} [BEq α] [LawfulBEq α] [BEq β] [LawfulBEq β] {f : α → β} (hf : Function.Injective f)
    (a : α) : ∀ l : List α, (l.map f).erase (f a) = (l.erase a).map f
  | [] => rfl
  | b :: l => by
    by_cases h : b = a
    · simp [h]
    · simp [h, hf.ne h, map_erase_inj hf a l]

theorem inst_cls (sc : Scope) (cls chk cur : Nat) : (inst sc cls chk cur).cls = cls := by
  cases sc <;> rfl

theorem lockInst_cls (S : Sys) (l chk cur : Nat) : (S.lockInst l chk cur).cls = l := inst_cls _ _ _ _

theorem fieldInst_cls (S : Sys) (f chk cur : Nat) : (S.fieldInst f chk cur).cls = f := inst_cls _ _ _ _

theorem inst_cur_irrel {sc : Scope} (h : sc ≠ .ent) (cls chk cur cur' : Nat) :
    inst sc cls chk cur = inst sc cls chk cur' := by
  cases sc <;> first | rfl | exact absurd rfl h

/-- A guard of coarser-or-equal scope is determined by the field instance. -/
theorem inst_scopeLe {sg sf : Scope} (h : scopeLe sg sf = true) {g f c1 e1 c2 e2 : Nat}
    (hf : inst sf f c1 e1 = inst sf f c2 e2) : inst sg g c1 e1 = inst sg g c2 e2 := by
  cases sg <;> cases sf <;> cases h <;> cases hf <;> rfl

theorem node_some {S : Sys} {p pc : Nat} {n : Node} (h : S.node p pc = some n) :
    ∃ P, S.progs[p]? = some P ∧ P.nodes[pc]? = some n := by
  unfold Sys.node at h
  split at h
  · exact ⟨_, by assumption, h⟩
  · cases h

theorem node_of {S : Sys} {p pc : Nat} {P : Prog} {n : Node} (hP : S.progs[p]? = some P)
    (hn : P.nodes[pc]? = some n) : S.node p pc = some n := by
  unfold Sys.node; rw [hP]; exact hn

theorem node_mem {S : Sys} {p pc : Nat} {n : Node} (h : S.node p pc = some n) : ∃ P ∈ S.progs, n ∈ P.nodes :=
  (node_some h).elim fun P hP => ⟨P, List.mem_of_getElem? hP.1, List.mem_of_getElem? hP.2⟩

/-! ### what the static checks give -/

theorem consistent_prog {S : Sys} (hc : S.consistent = true) {p : Nat} {P : Prog} (hP : S.progs[p]? = some P) :
    Prog.consistent S P = true :=
  List.all_eq_true.mp hc P (List.mem_of_getElem? hP)

theorem consistent_entry {S : Sys} (hc : S.consistent = true) {p : Nat} {P : Prog} (hP : S.progs[p]? = some P) :
    ∃ n, S.node p P.entry = some n ∧ n.held = [] := by
  have h := (Bool.and_eq_true_iff.mp (consistent_prog hc hP)).1
  split at h
  · next n hn => exact ⟨n, node_of hP hn, List.isEmpty_iff.mp h⟩
  · cases h

/-- The check of `Prog.consistent` at one node, the node table abstracted to `get` (so that `edgesOk` below can
look successors up differently). -/
def Node.consistent (S : Sys) (get : Nat → Option Node) (n : Node) : Bool :=
  match transfer S n.instr n.held with
  | none => false
  | some h' => n.succ.all fun s => match get s with | some n' => n'.held == h' | none => false

theorem consistent_node {S : Sys} (hc : S.consistent = true) {p pc : Nat} {n : Node} (hn : S.node p pc = some n) :
    ∃ h', transfer S n.instr n.held = some h' ∧
      ∀ s ∈ n.succ, ∃ n', S.node p s = some n' ∧ n'.held = h' := by
  obtain ⟨P, hP, hn'⟩ := node_some hn
  have h : Node.consistent S (P.nodes[·]?) n = true :=
    List.all_eq_true.mp (Bool.and_eq_true_iff.mp (consistent_prog hc hP)).2 n (List.mem_of_getElem? hn')
  unfold Node.consistent at h
  split at h
  · cases h
  · next h' ht =>
    refine ⟨h', ht, fun s hs => ?_⟩
    have h4 := List.all_eq_true.mp h s hs
    split at h4
    · next n' hs' => exact ⟨n', node_of hP hs', beq_iff_eq.mp h4⟩
    · cases h4

theorem transfer_rel {S : Sys} {l : Nat} {m : Mode} {h h' : List (Nat × Mode)}
    (ht : transfer S (.rel l m) h = some h') : (l, m) ∈ h ∧ h' = h.erase (l, m) := by
  simp only [transfer] at ht
  split at ht <;> cases ht
  exact ⟨‹_›, rfl⟩

theorem transfer_pick {S : Sys} {h h' : List (Nat × Mode)} (ht : transfer S .pick h = some h') :
    h' = h ∧ ∀ x ∈ h, S.lscope x.1 ≠ .ent := by
  simp only [transfer] at ht
  split at ht <;> cases ht
  exact ⟨rfl, fun x hx => bne_iff_ne.mp (List.all_eq_true.mp ‹_› x hx)⟩

theorem consistent_ret {S : Sys} (hc : S.consistent = true) {p pc : Nat} {n : Node}
    (hn : S.node p pc = some n) (hi : n.instr = .ret) : n.held = [] := by
  obtain ⟨h', htr, _⟩ := consistent_node hc hn
  rw [hi] at htr; simp only [transfer] at htr
  split at htr
  · exact List.isEmpty_iff.mp ‹_›
  · cases htr

theorem ordered_node {S : Sys} (ho : S.ordered = true) {p pc l : Nat} {m : Mode} {n : Node}
    (hn : S.node p pc = some n) (hi : n.instr = .acq l m) : ∀ x ∈ n.held, S.rank x.1 < S.rank l := by
  obtain ⟨P, hP, hn'⟩ := node_mem hn
  have h := List.all_eq_true.mp (List.all_eq_true.mp ho P hP) n hn'
  rw [hi] at h
  exact fun x hx => of_decide_eq_true (List.all_eq_true.mp h x hx)

theorem wf_node {S : Sys} (hw : S.wf = true) {p pc : Nat} {n : Node} (hn : S.node p pc = some n) :
    ∃ len, Node.wf S len n = true := by
  obtain ⟨P, hP, hn'⟩ := node_mem hn
  exact ⟨_, List.all_eq_true.mp (Bool.and_eq_true_iff.mp (List.all_eq_true.mp hw P hP)).2 n hn'⟩

theorem wf_succ_nonempty {S : Sys} (hw : S.wf = true) {p pc : Nat} {n : Node} (hn : S.node p pc = some n)
    (hr : n.instr ≠ .ret) : ∃ s, n.succ[0]? = some s := by
  obtain ⟨len, h⟩ := wf_node hw hn
  have h2 := (Bool.and_eq_true_iff.mp h).2
  cases hs : n.succ with
  | nil => cases hi : n.instr <;> simp [hi, hs] at h2 hr
  | cons a t => exact ⟨a, rfl⟩

theorem wf_spawn {S : Sys} (hw : S.wf = true) {p pc : Nat} {n : Node} (hn : S.node p pc = some n)
    {q : Nat} (hi : n.instr = .spawn q) : ∃ P, S.progs[q]? = some P := by
  obtain ⟨len, h⟩ := wf_node hw hn
  have h2 := (Bool.and_eq_true_iff.mp h).2
  rw [hi] at h2
  exact ⟨_, List.getElem?_eq_getElem (of_decide_eq_true (Bool.and_eq_true_iff.mp h2).2)⟩

/-! ### evaluating `Sys.consistent`

`Prog.consistent` finds every successor with `P.nodes[s]?`, from the head of the list, which makes its plain
evaluation quadratic in the size of a program. `edgesOk` walks down the list keeping the nodes it has passed
(nearest first), so that a successor is found from where the walk stands; successors are mostly near. -/

def around (pre suf : List Node) (k s : Nat) : Option Node :=
  if s < k then pre[k - 1 - s]? else suf[s - k]?

theorem around_eq (pre suf : List Node) (s : Nat) :
    around pre suf pre.length s = (pre.reverse ++ suf)[s]? := by
  unfold around
  split
  · next h => rw [List.getElem?_append_left (by simpa using h), List.getElem?_reverse h]
  · next h => rw [List.getElem?_append_right (by simpa using h), List.length_reverse]

def edgesOk (S : Sys) : List Node → List Node → Nat → Bool
  | _, [], _ => true
  | pre, n :: suf, k => Node.consistent S (around pre (n :: suf) k) n && edgesOk S (n :: pre) suf (k + 1)

theorem edgesOk_eq (S : Sys) : ∀ pre suf : List Node,
    edgesOk S pre suf pre.length = suf.all (Node.consistent S ((pre.reverse ++ suf)[·]?))
  | _, [] => rfl
  | pre, n :: suf => by
    have ih := edgesOk_eq S (n :: pre) suf
    rw [List.reverse_cons, List.append_assoc] at ih
    rw [edgesOk, List.all_cons, ← List.length_cons, ih]
    congr; funext s; exact around_eq ..

theorem Sys.consistent_eq (S : Sys) : S.consistent = S.progs.all fun P =>
    (match P.nodes[P.entry]? with | some n => n.held.isEmpty | none => false) && edgesOk S [] P.nodes 0 := by
  unfold Sys.consistent
  congr; funext P
  rw [show edgesOk S [] P.nodes 0 = _ from edgesOk_eq S [] P.nodes]; rfl

/-! ### the annotation invariant -/

/-- class and mode of a held lock -/
def cm (h : Inst × Mode) : Nat × Mode := (h.1.cls, h.2)

/-- Thread `t` is at a node of its program, holds exactly what the node's annotation says, and each
held lock is the instance of its class for the thread's current (checker, entry). -/
def ThreadOk (S : Sys) (t : Thread) : Prop :=
  ∃ n, S.node t.prog t.pc = some n ∧ t.held.map cm = n.held ∧
    ∀ h ∈ t.held, h.1 = S.lockInst h.1.cls t.chk t.cur

def Inv (S : Sys) (c : Config) : Prop := ∀ t ∈ c, ThreadOk S t

/-- The holding that annotation entry `x` stands for in a thread of checker `chk` working on entry `cur`. -/
def Sys.resolve (S : Sys) (chk cur : Nat) (x : Nat × Mode) : Inst × Mode := (S.lockInst x.1 chk cur, x.2)

theorem cm_resolve (S : Sys) (chk cur : Nat) (x : Nat × Mode) : cm (S.resolve chk cur x) = x :=
  Prod.ext (lockInst_cls ..) rfl

theorem resolve_injective (S : Sys) (chk cur : Nat) : Function.Injective (S.resolve chk cur) :=
  fun x y h => by rw [← cm_resolve S chk cur x, h, cm_resolve]

theorem threadOk_iff {S : Sys} {t : Thread} :
    ThreadOk S t ↔ ∃ n, S.node t.prog t.pc = some n ∧ t.held = n.held.map (S.resolve t.chk t.cur) := by
  constructor
  · rintro ⟨n, hn, hm, hres⟩
    refine ⟨n, hn, ?_⟩
    rw [← hm, List.map_map]
    exact (List.map_id _).symm.trans (List.map_congr_left fun h hh => Prod.ext (hres h hh) rfl)
  · rintro ⟨n, hn, hh⟩
    refine ⟨n, hn, ?_, ?_⟩
    · rw [hh, List.map_map]; exact List.map_id'' (cm_resolve S _ _) _
    · intro h hm
      rw [hh] at hm
      obtain ⟨x, _, rfl⟩ := List.mem_map.mp hm
      exact congrArg (S.lockInst · t.chk t.cur) (lockInst_cls ..).symm

theorem threadOk_start {S : Sys} (hc : S.consistent = true) {t : Thread}
    (h : t.held = [] ∧ ∃ P, S.progs[t.prog]? = some P ∧ t.pc = P.entry) : ThreadOk S t := by
  obtain ⟨hh, P, hP, hpc⟩ := h
  obtain ⟨n, hn, hne⟩ := consistent_entry hc hP
  exact threadOk_iff.mpr ⟨n, hpc ▸ hn, by rw [hh, hne]; rfl⟩

/-- A step of a thread in the terms of `Inv` and of `Excl` (below): its holdings follow the annotation (`transfer`, whatever
annotation `a` they resolve), a holding it gains was `free` (what `exec_excl` needs), and a spawned thread starts as `Init` asks. -/
theorem stepThread_some {S : Sys} {c : Config} {t t' : Thread} {u : Option Thread} {n : Node} {s pv : Nat}
    (h : stepThread S c t n s pv = some (t', u)) :
    (t'.prog = t.prog ∧ t'.pc = s) ∧
    (∀ a a', transfer S n.instr a = some a' → t.held = a.map (S.resolve t.chk t.cur) →
      t'.held = a'.map (S.resolve t'.chk t'.cur)) ∧
    (∀ x ∈ t'.held, x ∈ t.held ∨ free c x.1 x.2 = true) ∧
    ∀ u' ∈ u, u'.held = [] ∧ ∃ P, S.progs[u'.prog]? = some P ∧ u'.pc = P.entry := by
  revert h
  fun_cases stepThread S c t n s pv
  case case1 l m hi _ hfree =>
    rintro ⟨⟩; rw [hi]
    exact ⟨⟨rfl, rfl⟩, fun a a' ha hm => by cases ha; rw [List.map_cons, ← hm]; rfl,
      fun x hx => (List.mem_cons.mp hx).symm.imp_right fun he => by rw [he]; exact hfree, nofun⟩
  case case3 l m hi _ _ =>
    rintro ⟨⟩; rw [hi]
    refine ⟨⟨rfl, rfl⟩, fun a a' ha hm => ?_, fun x hx => .inl (List.mem_of_mem_erase hx), nofun⟩
    obtain ⟨-, rfl⟩ := transfer_rel ha
    simp only [hm]; exact map_erase_inj (resolve_injective S _ _) (_, _) _
  case case8 hi =>
    rintro ⟨⟩; rw [hi]
    refine ⟨⟨rfl, rfl⟩, fun a a' ha hm => ?_, fun x hx => .inl hx, nofun⟩
    obtain ⟨rfl, hsc⟩ := transfer_pick ha
    -- the holdings are of checker or global scope: they do not depend on the entry
    exact hm.trans (List.map_congr_left fun x hx => congrArg (·, x.2) (inst_cur_irrel (hsc x hx) x.1 t.chk t.cur pv))
  case case9 q hi P hP =>
    rintro ⟨⟩; rw [hi]
    exact ⟨⟨rfl, rfl⟩, fun a a' ha hm => by cases ha; exact hm, fun x hx => .inl hx,
      fun u' hu => by cases hu; exact ⟨rfl, _, hP, rfl⟩⟩
  case case5 | case6 | case7 =>
    rename_i hi
    rintro ⟨⟩; rw [hi]
    exact ⟨⟨rfl, rfl⟩, fun a a' ha hm => by cases ha; exact hm, fun x hx => .inl hx, nofun⟩
  -- left over, the outcomes `none`: lock not free, release of something not held, spawn of a missing program, `ret`
  all_goals nofun

theorem stepThread_ok {S : Sys} (hc : S.consistent = true) {c : Config} {t t' : Thread} {u : Option Thread}
    {n : Node} {s pv : Nat} (hn : S.node t.prog t.pc = some n) (hok : ThreadOk S t) (hs : s ∈ n.succ)
    (hst : stepThread S c t n s pv = some (t', u)) :
    ThreadOk S t' ∧ ∀ u' ∈ u, ThreadOk S u' := by
  obtain ⟨⟨hp, hpc⟩, hsim, -, hu⟩ := stepThread_some hst
  obtain ⟨n0, hn0, hm⟩ := threadOk_iff.mp hok
  rw [hn] at hn0; cases hn0
  obtain ⟨h', htr, hsucc⟩ := consistent_node hc hn
  obtain ⟨n', hn', rfl⟩ := hsucc s hs
  exact ⟨threadOk_iff.mpr ⟨n', by rw [hp, hpc]; exact hn', hsim _ _ htr hm⟩, fun u' hu' => threadOk_start hc (hu u' hu')⟩

theorem exec_some {S : Sys} {c c' : Config} {i ch pv : Nat} : exec S c i ch pv = some c' ↔
    ∃ t n s t' u, c[i]? = some t ∧ S.node t.prog t.pc = some n ∧ n.succ[ch]? = some s ∧
      stepThread S c t n s pv = some (t', u) ∧ c' = c.set i t' ++ u.toList := by
  constructor
  · fun_cases exec S c i ch pv
    case case5 t hci n hn s hs t' hst => rintro ⟨⟩; exact ⟨t, n, s, t', none, hci, hn, hs, hst, (List.append_nil _).symm⟩
    case case6 t hci n hn s hs t' u hst => rintro ⟨⟩; exact ⟨t, n, s, t', some u, hci, hn, hs, hst, rfl⟩
    all_goals nofun
  · rintro ⟨t, n, s, t', u, hci, hn, hs, hst, rfl⟩
    unfold exec
    simp only [hci, hn, hs, hst]
    cases u <;> simp

theorem exec_inv {S : Sys} (hc : S.consistent = true) {c c' : Config} {i ch pv : Nat}
    (hinv : Inv S c) (h : exec S c i ch pv = some c') : Inv S c' := by
  obtain ⟨t, n, s, t', u, hci, hn, hs, hst, rfl⟩ := exec_some.mp h
  obtain ⟨h1, h2⟩ := stepThread_ok hc hn (hinv t (List.mem_of_getElem? hci)) (List.mem_of_getElem? hs) hst
  intro x hx
  rcases List.mem_append.mp hx with hx | hx
  · rcases List.mem_or_eq_of_mem_set hx with hx | rfl
    · exact hinv x hx
    · exact h1
  · exact h2 x (Option.mem_toList.mp hx)

theorem init_inv {S : Sys} (hc : S.consistent = true) {c : Config} (hi : Init S c) : Inv S c :=
  fun t ht => threadOk_start hc (hi t ht)

theorem reachable_inv {S : Sys} (hc : S.consistent = true) {c : Config} (hr : Reachable S c) : Inv S c := by
  induction hr with
  | init hi => exact init_inv hc hi
  | step _ hs ih =>
    obtain ⟨i, ch, pv, h⟩ := hs
    exact exec_inv hc ih h

/-! ### mutual exclusion -/

def heldOf (c : Config) (j : Nat) : List (Inst × Mode) :=
  match c[j]? with
  | some t => t.held
  | none => []

/-- Two distinct threads hold the same lock instance only if both hold it for reading. -/
def Excl (c : Config) : Prop :=
  ∀ i j, i ≠ j → ∀ h ∈ heldOf c i, ∀ h' ∈ heldOf c j, h.1 = h'.1 → h.2 = .r ∧ h'.2 = .r

theorem heldOf_of_getElem? {c : Config} {i : Nat} {t : Thread} (h : c[i]? = some t) : heldOf c i = t.held := by
  unfold heldOf; rw [h]

theorem heldOf_set (c : Config) (i j : Nat) (t t' : Thread) (hci : c[i]? = some t) :
    heldOf (c.set i t') j = if j = i then t'.held else heldOf c j := by
  unfold heldOf
  by_cases hji : j = i
  · rw [if_pos hji, hji, List.getElem?_set_self (List.getElem?_eq_some_iff.mp hci).1]
  · rw [if_neg hji, List.getElem?_set_ne (Ne.symm hji)]

theorem heldOf_append_idle (c us : Config) (hu : ∀ u ∈ us, u.held = []) (j : Nat) :
    heldOf (c ++ us) j = heldOf c j := by
  unfold heldOf
  rcases Nat.lt_or_ge j c.length with h | h
  · rw [List.getElem?_append_left h]
  · rw [List.getElem?_append_right h, List.getElem?_eq_none h]
    split
    · next u hj => exact hu u (List.mem_of_getElem? hj)
    · rfl

theorem heldOf_mem {c : Config} {j : Nat} {x : Inst × Mode} (hx : x ∈ heldOf c j) :
    ∃ t ∈ c, x ∈ t.held := by
  unfold heldOf at hx
  split at hx
  · next t hj => exact ⟨t, List.mem_of_getElem? hj, hx⟩
  · cases hx

theorem free_iff {c : Config} {lid : Inst} {m : Mode} :
    free c lid m = true ↔ ∀ t ∈ c, ∀ x ∈ t.held, x.1 = lid → m = .r ∧ x.2 = .r := by
  cases m <;> simp only [free, List.all_eq_true] <;>
    exact forall₂_congr fun t _ => forall₂_congr fun x _ => by cases x.2 <;> simp

theorem held_of_not_free {c : Config} {lid : Inst} {m : Mode} (h : free c lid m = false) :
    ∃ t ∈ c, ∃ x ∈ t.held, x.1 = lid := by
  false_or_by_contra
  rename_i hne
  rw [← Bool.not_eq_true, free_iff] at h
  exact h fun t ht x hx he => absurd ⟨t, ht, x, hx, he⟩ hne

theorem exec_excl {S : Sys} {c c' : Config} {i ch pv : Nat} (hex : Excl c)
    (h : exec S c i ch pv = some c') : Excl c' := by
  obtain ⟨t, n, s, t', u, hci, hn, hs, hst, rfl⟩ := exec_some.mp h
  obtain ⟨-, -, hheld, hu⟩ := stepThread_some hst
  have hset (j : Nat) : heldOf (c.set i t' ++ u.toList) j = if j = i then t'.held else heldOf c j :=
    (heldOf_append_idle _ _ (fun u' hu' => (hu u' (Option.mem_toList.mp hu')).1) j).trans (heldOf_set c i j t t' hci)
  -- a holding of thread i after the step against a holding of another thread j: old against old, or it was free
  have key : ∀ j, j ≠ i → ∀ x ∈ t'.held, ∀ y ∈ heldOf c j, x.1 = y.1 → x.2 = .r ∧ y.2 = .r := by
    intro j hji x hx y hy hxy
    rcases hheld x hx with hold | hfree
    · exact hex i j (Ne.symm hji) x (heldOf_of_getElem? hci ▸ hold) y hy hxy
    · obtain ⟨tj, htj, hyj⟩ := heldOf_mem hy
      exact free_iff.mp hfree tj htj y hyj hxy.symm
  intro a b hab x hx y hy hxy
  rw [hset] at hx hy
  split at hx <;> split at hy
  · next ha hb => exact absurd (ha.trans hb.symm) hab
  · next ha hb => exact key b hb x hx y hy hxy
  · next ha hb => exact (key a ha y hy x hx hxy.symm).symm
  · exact hex a b hab x hx y hy hxy

theorem init_excl {S : Sys} {c : Config} (hi : Init S c) : Excl c := by
  intro i j _ x hx
  obtain ⟨t, ht, hxt⟩ := heldOf_mem hx
  rw [(hi t ht).1] at hxt; cases hxt

theorem reachable_excl {S : Sys} {c : Config} (hr : Reachable S c) : Excl c := by
  induction hr with
  | init hi => exact init_excl hi
  | step _ hs ih =>
    obtain ⟨i, ch, pv, h⟩ := hs
    exact exec_excl ih h

end Crv.Locks
