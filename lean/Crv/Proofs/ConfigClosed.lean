import Crv.Proofs.Config
import Crv.Generated.Config
/-!
Helper lemmas for C19 over the regenerated facts: `K`, `L`, `Fx` below are the constants `Crv.Generated.caddyFacts`,
`loadFacts`, `configFacts` (in `Crv.Proofs.Config` and in the model `L` is a variable). `crlSpec`, `ocspSpec`,
`validateSpec`, `provisionSpec` are the "closed forms": what the interpreters compute on the current step lists, written
without the interpreter; the lemmas `*_closed` say so. (The namespace `Closed` only means "over the regenerated facts".)
`loadCaddyfile_eq_parse_loadJSON` is what the C19 statements about the Caddyfile path rest on, except the unknown-key
theorems, which stop at the parser (`Crv.Config.load_not_ok_of_parse`).
Every `rfl`/`decide`/`simp` about `K`, `L` here re-checks against the tables regenerated from /repo on each run.
-/
namespace Crv.Config.Closed

open Crv Crv.Config Crv.Generated

abbrev K := caddyFacts
abbrev L := loadFacts
abbrev Fx := configFacts

/-! ### The regenerated step lists (revocation.go, configparser.go)

They break when the Go code changes shape. `provision_closed` and `unmarshal_closed` rewrite with five of them; the
closed forms of the value parsers unfold `L, loadFacts` wholesale instead. -/

theorem L_provisionSteps : L.provisionSteps =
    [.allocCrlIfEnabled, .allocOcsp, .parseConfig, .validate, .crlProvisionIfEnabled, .ocspProvision] := rfl
theorem L_parseSteps : L.parseSteps = [.crl, .ocsp true, .mode] := rfl
theorem L_unmarshalSteps : L.unmarshalSteps = [.copyOcsp, .copyCrl, .copyMode, .parseMode, .validate] := rfl
theorem L_crlSteps : L.crlSteps = [.sigMode, .storage, .interval, .signers, .cdp] := rfl
theorem L_ocspSteps : L.ocspSteps = [.cacheDuration, .responders] := rfl
theorem L_crlEnabled : L.crlEnabled = crlEnabled := rfl
theorem L_parseMode : L.parseMode = parseMode := by simp only [L, loadFacts]  -- `rfl` is 25 times dearer
theorem L_modeZero : L.modeZero = .preferOCSP := rfl

/-! ### The regenerated key tables (caddyfile.go), entry by entry

By `simp`, not `decide`: the kernel compares two equal string literals byte by byte, `simp` sees that they are the same. -/
section
attribute [local simp] lookupKey caddyFacts topBlock crlBlock cdpBlock ocspBlock

theorem key_mode : lookupKey "mode" K.top.keys = some (.str .mode) := by simp
theorem key_crl_config : lookupKey "crl_config" K.top.keys = some (.sub .crl) := by simp
theorem key_ocsp_config : lookupKey "ocsp_config" K.top.keys = some (.sub .ocsp) := by simp
theorem key_work_dir : lookupKey "work_dir" K.crl.keys = some (.str .workDir) := by simp
theorem key_cdp_config : lookupKey "cdp_config" K.crl.keys = some (.sub .cdp) := by simp
theorem key_storage_type : lookupKey "storage_type" K.crl.keys = some (.str .storage) := by simp
theorem key_update_interval : lookupKey "update_interval" K.crl.keys = some (.str .interval) := by simp
theorem key_signature_validation_mode : lookupKey "signature_validation_mode" K.crl.keys = some (.str .sigMode) := by simp
theorem key_crl_url : lookupKey "crl_url" K.crl.keys = some (.append .urls) := by simp
theorem key_crl_file : lookupKey "crl_file" K.crl.keys = some (.append .files) := by simp
theorem key_trusted_signature_cert_file :
    lookupKey "trusted_signature_cert_file" K.crl.keys = some (.append .signers) := by simp
theorem key_crl_fetch_mode : lookupKey "crl_fetch_mode" K.cdp.keys = some (.str .fetchMode) := by simp
theorem key_crl_cdp_strict : lookupKey "crl_cdp_strict" K.cdp.keys = some (.parsedBool .strict) := by simp
theorem key_default_cache_duration : lookupKey "default_cache_duration" K.ocsp.keys = some (.str .cacheDuration) := by simp
theorem key_trusted_responder_cert_file :
    lookupKey "trusted_responder_cert_file" K.ocsp.keys = some (.append .responders) := by simp
theorem key_ocsp_aia_strict : lookupKey "ocsp_aia_strict" K.ocsp.keys = some (.parsedBool .aiaStrict) := by simp
end

/-! ### What the Caddyfile parser makes of rendered settings -/

theorem foldl_crl_append (f : CrlField) (l : List String) (c : RawCrl) :
    l.foldl (fun s v => assign K.crl ((crlSetters K).append f v) s) c =
      match f with
      | .urls => { c with urls := c.urls ++ l }
      | .files => { c with files := c.files ++ l }
      | .signers => { c with signers := c.signers ++ l }
      | _ => c := by
  induction l generalizing c with
  | nil => cases f <;> simp
  | cons v vs ih => rw [List.foldl_cons, ih]; cases f <;> simp [assign, crlSetters, caddyFacts, crlBlock]

theorem foldl_responders (l : List String) (c : RawOcsp) :
    l.foldl (fun s v => assign K.ocsp (ocspSetters.append .responders v) s) c = { c with responders := c.responders ++ l } := by
  induction l generalizing c with
  | nil => simp
  | cons v vs ih =>
    rw [List.foldl_cons, ih]
    simp [assign, ocspSetters, K, caddyFacts, ocspBlock]

theorem parse_render_cdp (c : CdpCfg) : parseBlock K.cdp cdpSetters (renderCdp c) {} = .ok (jsonOfCdp c) := by
  rw [← List.append_nil (renderCdp c)]
  unfold renderCdp
  rw [List.append_assoc, parseBlock_optLine_str _ _ key_crl_fetch_mode, parseBlock_optLine_bool _ _ key_crl_cdp_strict]
  rcases c with ⟨_ | f, _ | b⟩ <;> rfl

theorem parse_render_ocsp (c : OcspCfg) : parseBlock K.ocsp ocspSetters (renderOcsp c) {} = .ok (jsonOfOcsp c) := by
  rw [← List.append_nil (renderOcsp c)]
  unfold renderOcsp
  simp only [List.append_assoc]
  rw [parseBlock_optLine_str _ _ key_default_cache_duration, parseBlock_lines_append _ _ key_trusted_responder_cert_file,
    foldl_responders, parseBlock_optLine_bool _ _ key_ocsp_aia_strict]
  rcases c with ⟨_ | f, r, _ | b⟩ <;> simp [parseBlock, jsonOfOcsp, assign, ocspSetters, K, caddyFacts, ocspBlock]

theorem crl_scalars (wd st iv sg : Option String) (rest : List Tok) (s : RawCrl) :
    parseBlock K.crl (crlSetters K) (optLine "work_dir" wd ++ (optLine "storage_type" st ++
      (optLine "update_interval" iv ++ (optLine "signature_validation_mode" sg ++ rest)))) s =
    parseBlock K.crl (crlSetters K) rest
      { s with workDir := wd.getD s.workDir, storage := st.getD s.storage, interval := iv.getD s.interval,
               sigMode := sg.getD s.sigMode } := by
  rw [parseBlock_optLine_str _ _ key_work_dir, parseBlock_optLine_str _ _ key_storage_type,
    parseBlock_optLine_str _ _ key_update_interval, parseBlock_optLine_str _ _ key_signature_validation_mode]
  cases wd <;> cases st <;> cases iv <;> cases sg <;> rfl

theorem crl_lists (urls files signers : List String) (rest : List Tok) (s : RawCrl) :
    parseBlock K.crl (crlSetters K) (urls.map (line "crl_url") ++ (files.map (line "crl_file") ++
      (signers.map (line "trusted_signature_cert_file") ++ rest))) s =
    parseBlock K.crl (crlSetters K) rest
      { s with urls := s.urls ++ urls, files := s.files ++ files, signers := s.signers ++ signers } := by
  simp only [parseBlock_lines_append _ _ key_crl_url, parseBlock_lines_append _ _ key_crl_file,
    parseBlock_lines_append _ _ key_trusted_signature_cert_file, foldl_crl_append]

theorem parse_render_crl (c : CrlCfg) : parseBlock K.crl (crlSetters K) (renderCrl c) {} = .ok (jsonOfCrl c) := by
  unfold renderCrl
  simp only [List.append_assoc]
  rw [crl_scalars, crl_lists]
  rcases c with ⟨wd, st, iv, sg, urls, files, signers, _ | cdp⟩
  · rfl
  · simp only [parseBlock, procEntry_block _ _ key_cdp_config, crlSetters, parse_render_cdp, Res.map_ok]
    rfl

/-- What the Caddyfile parser builds for the settings `c`: as the JSON form, except that an absent
`crl_config` / `ocsp_config` leaves the parser's initial (non-nil, empty) structs. -/
def caddyOf (c : Cfg) : RawCfg :=
  { mode := c.mode.getD ""
    crl := some (match c.crl with | none => { cdp := some {} } | some d => jsonOfCrl d)
    ocsp := some (match c.ocsp with | none => {} | some o => jsonOfOcsp o) }

theorem parse_render (c : Cfg) : parseCaddyfile K (renderCaddyfile c) = .ok (caddyOf c) := by
  unfold parseCaddyfile renderCaddyfile
  rw [List.append_assoc, parseBlock_optLine_str _ _ key_mode]
  rcases c with ⟨m, _ | crl, _ | ocsp⟩ <;>
    simp only [List.nil_append, List.cons_append, parseBlock_cons, procEntry_block _ _ key_crl_config,
      procEntry_block _ _ key_ocsp_config, topSetters, parse_render_crl, parse_render_ocsp, Res.map_ok, Res.bind_ok,
      parseBlock] <;>
    cases m <;> rfl

/-! ### Closed forms of the value parsers and of validateConfig -/

/-- `validateConfig` reads the configured part and `ModeParsed` only. -/
def validateRaw (env : Env) (raw : RawCfg) (m : Mode) : Res Unit := validate L env { raw := raw, modeParsed := m }

theorem validate_eq (env : Env) (st : VState) : validate L env st = validateRaw env st.raw st.modeParsed := rfl

/-- parseCRLConfig. The literals are `L.defaultIntervalNs`, `L.intervalMustBePositive`, `L.nilCdpDefault` (in `ocspSpec`,
`ocspPart`: `L.defaultCacheNs`, `L.cacheMustBePositive`, `L.nilOcspDefault`); `parseCrl_closed`, `parseOcsp_closed` and
`parseStep_ocsp` re-check them. -/
def crlSpec (env : Env) (raw : RawCrl) : Res EffCrl :=
  (optRes (parseSignatureValidationMode raw.sigMode)).bind fun sg =>
  (optRes (parseStorageType raw.storage)).bind fun st =>
  (parseDurationField env raw.interval 1800000000000 true).bind fun iv =>
  (if raw.signers.all env.certOk then Res.ok () else Res.error).bind fun _ =>
  (match raw.cdp with
   | some c => (optRes (parseCRLFetchMode c.fetchMode)).map fun m => ({ fetchMode := m, strict := c.strict } : EffCdp)
   | none => Res.ok { fetchMode := .actively, strict := false }).map fun cdp =>
  { workDir := raw.workDir, storage := st, intervalNs := iv, sigMode := sg, urls := raw.urls, files := raw.files,
    signers := raw.signers, cdp := some cdp }

theorem parseCrl_closed (env : Env) (raw : RawCrl) : parseCrl L env raw = crlSpec env raw := by
  unfold crlSpec
  simp only [parseCrl, L, loadFacts, runCrlSteps, crlStep, crlUnparsed]
  cases parseSignatureValidationMode raw.sigMode <;> simp only [optRes, Res.map_ok, Res.map_error, Res.bind_ok, Res.bind_error]
  cases parseStorageType raw.storage <;> simp only [Res.map_ok, Res.map_error, Res.bind_ok, Res.bind_error]
  cases parseDurationField env raw.interval 1800000000000 true <;>
    simp only [Res.map_ok, Res.map_error, Res.map_panic, Res.bind_ok, Res.bind_error, Res.bind_panic]
  cases raw.signers.all env.certOk <;> simp only [if_true, if_false, Bool.false_eq_true, Res.bind_ok, Res.bind_error]
  rcases raw.cdp with _ | c <;> simp only [Res.map_ok]
  cases parseCRLFetchMode c.fetchMode <;> simp only [Res.map_ok, Res.map_error]

def validateSpec (env : Env) (raw : RawCfg) (m : Mode) : Res Unit :=
  if crlEnabled m then
    match raw.crl with
    | none => .error
    | some c => if c.workDir = "" then .error else
      match env.path c.workDir with
      | .dir => .ok ()
      | _ => .error
  else .ok ()

theorem validate_closed (env : Env) (raw : RawCfg) (m : Mode) : validateRaw env raw m = validateSpec env raw m := by
  unfold validateRaw validateSpec validate
  cases hce : crlEnabled m
  · cases m <;> first | rfl | cases hce
  · -- the `disabled` shortcut is taken by no mode that enables CRL checking
    have hd : (m == Mode.disabled) = false := by cases m <;> first | rfl | cases hce
    simp only [L, loadFacts, hce, hd, runChecks, Bool.and_false, Bool.not_true, Bool.false_eq_true, if_false, if_true]
    rcases raw.crl with _ | c
    · rfl
    · by_cases hw : c.workDir = "" <;> simp only [hw, if_true, if_false]
      cases env.path c.workDir <;> simp

def ocspSpec (env : Env) (raw : RawOcsp) : Res EffOcsp :=
  (parseDurationField env raw.cacheDuration 0 false).bind fun cd =>
  (if raw.responders.all env.certOk then Res.ok () else Res.error).map fun _ =>
  { cacheNs := cd, responders := raw.responders, aiaStrict := raw.aiaStrict }

theorem parseOcsp_closed (env : Env) (raw : RawOcsp) : parseOcsp L env raw = ocspSpec env raw := by
  unfold ocspSpec
  simp only [parseOcsp, L, loadFacts, runOcspSteps, ocspStep]
  cases parseDurationField env raw.cacheDuration 0 false <;> simp only [Res.map_ok, Res.map_error, Res.map_panic, Res.bind_ok, Res.bind_error, Res.bind_panic]
  cases raw.responders.all env.certOk <;> simp

/-- The CRL configuration the Caddyfile path ends up with when no `crl_config` block is given. -/
def initCrlEff : EffCrl :=
  { workDir := "", storage := .disk, intervalNs := 1800000000000, sigMode := .verify, urls := [], files := [], signers := [],
    cdp := some { fetchMode := .actively, strict := false } }

theorem crlSpec_init (env : Env) : crlSpec env { cdp := some {} } = .ok initCrlEff := by
  simp [crlSpec, parseDurationField, optRes, parseSignatureValidationMode, parseStorageType, parseCRLFetchMode, initCrlEff]

theorem ocspSpec_empty (env : Env) : ocspSpec env {} = .ok { cacheNs := 0, responders := [], aiaStrict := false } := by
  simp [ocspSpec, parseDurationField]

/-! ### Closed form of Provision and of UnmarshalCaddyfile -/

/-- `if c.CRLConfig != nil { parseCRLConfig(c.CRLConfig) }`, the parsed part as a value. -/
def crlPart (env : Env) : Option RawCrl → Res (Option EffCrl)
  | some c => (crlSpec env c).map some
  | none => .ok none

/-- `if c.OCSPConfig != nil { parseOCSPConfig(c.OCSPConfig) } else { c.OCSPConfig = &OCSPConfig{…} }` -/
def ocspPart (env : Env) : Option RawOcsp → Res (Option EffOcsp)
  | some o => (ocspSpec env o).map some
  | none => .ok (some ⟨0, [], false⟩)

/-- Closed form of `Provision` on the regenerated step lists. `chk`: a CRL checker object exists. -/
def provisionSpec (env : Env) (raw : RawCfg) (chk : Bool) : Res Effective :=
  (crlPart env raw.crl).bind fun crlP =>
  (ocspPart env raw.ocsp).bind fun ocspP =>
  (optRes (parseMode raw.mode)).bind fun m =>
  (validateSpec env raw m).bind fun _ =>
  (if crlEnabled m then
     (if chk then (match crlP with | none => Res.panic | some e => crlProvision env e) else Res.panic)
   else Res.ok ()).map fun _ =>
  { mode := m, crl := crlP, ocsp := ocspP }

-- `h`: without a `crl_config` the step leaves `crlP` as it is where `crlPart` says `none`: the same thing on the fresh
-- validator `Provision` starts from (`simp` discharges `h` by projection). `.ocsp true` always writes, so no hypothesis.
theorem parseStep_crl (env : Env) (st : VState) (h : st.crlP = none) :
    parseStep L env st .crl = (crlPart env st.raw.crl).map fun p => { st with crlP := p } := by
  unfold parseStep crlPart
  cases st.raw.crl
  · rw [← h]; rfl
  · simp only [parseCrl_closed, Res.map_map]; rfl

theorem parseStep_ocsp (env : Env) (st : VState) :
    parseStep L env st (.ocsp true) = (ocspPart env st.raw.ocsp).map fun p => { st with ocspP := p } := by
  unfold parseStep ocspPart
  cases st.raw.ocsp
  · rfl
  · simp only [parseOcsp_closed, Res.map_map]; rfl

/-- `early`: `ModeParsed` at the start of `Provision`; it only decides whether `allocCrlIfEnabled` creates the checker
(`chk`). -/
theorem provision_closed (env : Env) (raw : RawCfg) (early : Mode) :
    (provision L env { raw := raw, modeParsed := early }).map VState.effective =
      provisionSpec env raw (crlEnabled early) := by
  -- Both sides become the same chain of `bind`s, in three stages so that the lemmas about single steps fire before
  -- the steps are unfolded; `runPSteps`/`runParseSteps` themselves only unfold what is left of them, the empty list.
  simp only [provision, L_provisionSteps, runPSteps_cons, pStep_allocCrl, Res.bind_ok]
  simp only [runPSteps, pStep, parseConfig, L_parseSteps, runParseSteps_cons, parseStep_ocsp, parseStep_crl, Res.bind_ok]
  simp only [provisionSpec, runParseSteps, parseStep, L_crlEnabled, L_parseMode, validate_eq, validate_closed,
    Res.bind_map, Res.map_bind, Res.bind_assoc, Res.map_ok, Res.bind_ok]
  refine congrArg _ (funext fun crlP => congrArg _ (funext fun ocspP => congrArg _ (funext fun m =>
    congrArg _ (funext fun _ => ?_))))
  cases crlEnabled m
  · rfl
  cases crlEnabled early
  · rfl
  rcases crlP with _ | e
  · rfl
  dsimp only
  cases crlProvision env e <;> rfl

-- `json.Unmarshal` leaves `ModeParsed` at its zero value (`L_modeZero`: prefer_ocsp), which enables CRL checking: the
-- JSON path always has a CRL checker.
theorem loadJSON_closed (env : Env) (raw : RawCfg) : loadJSON L env raw = provisionSpec env raw true :=
  provision_closed env raw .preferOCSP

theorem unmarshal_closed (env : Env) (parsed : RawCfg) :
    runUSteps L env parsed L.unmarshalSteps (VState.zero L) =
      (optRes (parseMode parsed.mode)).bind fun m =>
        (validateSpec env parsed m).map fun _ => { raw := parsed, modeParsed := m } := by
  simp only [L_unmarshalSteps, runUSteps_cons, uStep, Res.bind_ok]
  simp only [runUSteps, L_parseMode, validate_eq, validate_closed, Res.bind_map]
  rfl

/-! ### Success of a load, characterised; auxiliary predicates of the C19 statements -/

theorem of_crlSpec_eq_ok (env : Env) (raw : RawCrl) (ec : EffCrl) (h : crlSpec env raw = .ok ec) :
    ec.workDir = raw.workDir ∧ ec.urls = raw.urls ∧ ec.files = raw.files ∧ ec.signers = raw.signers ∧
    parseSignatureValidationMode raw.sigMode = some ec.sigMode ∧ parseStorageType raw.storage = some ec.storage ∧
    (raw.interval = "" → ec.intervalNs = 1800000000000) ∧
    (raw.interval ≠ "" → env.dur raw.interval = some ec.intervalNs ∧ 0 < ec.intervalNs) ∧
    raw.signers.all env.certOk = true ∧
    (match raw.cdp with
     | none => ec.cdp = some ⟨.actively, false⟩
     | some d => ∃ m, parseCRLFetchMode d.fetchMode = some m ∧ ec.cdp = some ⟨m, d.strict⟩) := by
  unfold crlSpec at h
  simp only [Res.bind_eq_ok, Res.map_eq_ok, Res.ite_eq_ok, optRes_eq_ok, parseDurationField_eq_ok, forall_const] at h
  obtain ⟨sg, hsg, st, hst, iv, hiv, _, hu, cdp, hcdp, rfl⟩ := h
  refine ⟨rfl, rfl, rfl, rfl, hsg, hst, hiv.1, hiv.2, hu.1, ?_⟩
  cases hr : raw.cdp with
  | none => rw [hr] at hcdp; cases hcdp; rfl
  | some d =>
    rw [hr] at hcdp
    obtain ⟨m, hm, rfl⟩ := (Res.map_eq_ok _ _ _).mp hcdp
    exact ⟨m, (optRes_eq_ok _ _).mp hm, rfl⟩

theorem of_ocspSpec_eq_ok (env : Env) (raw : RawOcsp) (eo : EffOcsp) (h : ocspSpec env raw = .ok eo) :
    eo.responders = raw.responders ∧ eo.aiaStrict = raw.aiaStrict ∧
    (raw.cacheDuration = "" → eo.cacheNs = 0) ∧ (raw.cacheDuration ≠ "" → env.dur raw.cacheDuration = some eo.cacheNs) ∧
    raw.responders.all env.certOk = true := by
  unfold ocspSpec at h
  simp only [Res.bind_eq_ok, Res.map_eq_ok, Res.ite_eq_ok, parseDurationField_eq_ok, Bool.false_eq_true, false_imp_iff,
    and_true] at h
  obtain ⟨cd, hcd, _, hu, rfl⟩ := h
  exact ⟨rfl, rfl, hcd.1, hcd.2, hu⟩

/-- `e` is the documented reading of the configured structs `raw`, and everything the documentation
requires for CRL checking is in place. -/
structure Loaded (env : Env) (raw : RawCfg) (e : Effective) : Prop where
  mode : parseMode raw.mode = some e.mode
  crl : match raw.crl with
    | none => e.crl = none
    | some c => ∃ ec, e.crl = some ec ∧ crlSpec env c = .ok ec
  ocsp : match raw.ocsp with
    | none => e.ocsp = some ⟨0, [], false⟩
    | some o => ∃ eo, e.ocsp = some eo ∧ ocspSpec env o = .ok eo
  workDir : crlEnabled e.mode = true → ∃ c, raw.crl = some c ∧ c.workDir ≠ "" ∧ env.path c.workDir = .dir
  crls : crlEnabled e.mode = true → ∀ ec, e.crl = some ec →
    ec.urls.all env.crlOk = true ∧ ec.files.all env.crlOk = true ∧ 0 < ec.intervalNs

-- One case analysis for both halves, which follow under names of their own.
theorem validateSpec_spec (env : Env) (raw : RawCfg) (m : Mode) :
    validateSpec env raw m ≠ .panic ∧ ∀ u, (validateSpec env raw m = .ok u ↔
      (crlEnabled m = true → ∃ c, raw.crl = some c ∧ c.workDir ≠ "" ∧ env.path c.workDir = .dir)) := by
  fun_cases validateSpec env raw m <;> simp_all

theorem validateSpec_ne_panic (env : Env) (raw : RawCfg) (m : Mode) : validateSpec env raw m ≠ .panic :=
  (validateSpec_spec env raw m).1

-- For any `u : Unit`, so that it rewrites under the `∃ u, … = .ok u` that `Res.bind_eq_ok` produces.
theorem validateSpec_eq_ok (env : Env) (raw : RawCfg) (m : Mode) (u : Unit) :
    validateSpec env raw m = .ok u ↔
      (crlEnabled m = true → ∃ c, raw.crl = some c ∧ c.workDir ≠ "" ∧ env.path c.workDir = .dir) :=
  (validateSpec_spec env raw m).2 u

/- The right sides of the next two are, word for word, the `crl` and `ocsp` clauses of `Loaded`: Lean then uses one
matcher for both, and `provisionSpec_eq_ok` can hand the rewritten hypotheses to `Loaded.mk` as they are. -/
theorem crlPart_eq_ok (env : Env) (o : Option RawCrl) (p : Option EffCrl) :
    crlPart env o = .ok p ↔ match o with
      | none => p = none
      | some c => ∃ ec, p = some ec ∧ crlSpec env c = .ok ec := by
  cases o <;> simp [crlPart, Res.map_eq_ok, eq_comm, and_comm]

theorem ocspPart_eq_ok (env : Env) (o : Option RawOcsp) (p : Option EffOcsp) :
    ocspPart env o = .ok p ↔ match o with
      | none => p = some ⟨0, [], false⟩
      | some o => ∃ eo, p = some eo ∧ ocspSpec env o = .ok eo := by
  cases o <;> simp [ocspPart, Res.map_eq_ok, eq_comm, and_comm]

theorem provisionSpec_eq_ok (env : Env) (raw : RawCfg) (chk : Bool) (e : Effective) :
    provisionSpec env raw chk = .ok e ↔ (Loaded env raw e ∧ (crlEnabled e.mode = true → chk = true)) := by
  simp only [provisionSpec, Res.bind_eq_ok, Res.map_eq_ok, optRes_eq_ok, crlPart_eq_ok, ocspPart_eq_ok, validateSpec_eq_ok]
  constructor
  · rintro ⟨crlP, hc, ocspP, ho, m, hm, _, hv, _, hp, rfl⟩
    rcases Bool.eq_false_or_eq_true (crlEnabled m) with hce | hce
    · cases chk <;> simp only [hce, if_true, if_false, Bool.false_eq_true, reduceCtorEq] at hp
      refine ⟨⟨hm, hc, ho, hv, fun _ ec hec => ?_⟩, fun _ => rfl⟩
      cases hec
      exact (crlProvision_eq_ok env ec).mp hp
    · have hn : ¬ crlEnabled m = true := by simp [hce]
      exact ⟨⟨hm, hc, ho, hv, fun h => absurd h hn⟩, fun h => absurd h hn⟩
  · rintro ⟨⟨hm, hc, ho, hw, hcr⟩, hchk⟩
    refine ⟨e.crl, hc, e.ocsp, ho, e.mode, hm, (), hw, (), ?_, rfl⟩
    cases hce : crlEnabled e.mode
    · rfl
    · obtain ⟨c, hrc, _⟩ := hw hce
      rw [hrc] at hc
      obtain ⟨ec, h1, _⟩ := hc
      simp only [if_true, hchk hce, h1]
      exact (crlProvision_eq_ok env ec).mpr (hcr hce ec h1)

/-- A configured value no parser accepts: wrong enum string, unparsable duration, update interval that is not
positive (one clause for both: no parse result is positive), unreadable certificate file. -/
def InvalidValue (env : Env) (raw : RawCfg) : Prop :=
  parseMode raw.mode = none ∨
  (∃ c, raw.crl = some c ∧
    (parseStorageType c.storage = none ∨ parseSignatureValidationMode c.sigMode = none ∨
     (c.interval ≠ "" ∧ ∀ d, env.dur c.interval = some d → d ≤ 0) ∨ c.signers.all env.certOk = false ∨
     ∃ d, c.cdp = some d ∧ parseCRLFetchMode d.fetchMode = none)) ∨
  (∃ o, raw.ocsp = some o ∧ ((o.cacheDuration ≠ "" ∧ env.dur o.cacheDuration = none) ∨ o.responders.all env.certOk = false))

theorem invalid_not_loaded (env : Env) (raw : RawCfg) (e : Effective) (hi : InvalidValue env raw) : ¬ Loaded env raw e := by
  intro h
  rcases hi with hm | ⟨c, hc, hv⟩ | ⟨o, ho, hv⟩
  · cases hm.symm.trans h.mode
  · obtain ⟨ec, _, h2⟩ := hc ▸ h.crl
    obtain ⟨_, _, _, _, a5, a6, _, a7, a8, a9⟩ := of_crlSpec_eq_ok env c ec h2
    rcases hv with hv | hv | ⟨hne, hv⟩ | hv | ⟨d, hd, hv⟩
    · cases hv.symm.trans a6
    · cases hv.symm.trans a5
    · have := hv _ (a7 hne).1
      have := (a7 hne).2
      omega
    · cases hv.symm.trans a8
    · rw [hd] at a9
      obtain ⟨m, hm, _⟩ := a9
      cases hv.symm.trans hm
  · obtain ⟨eo, _, h2⟩ := ho ▸ h.ocsp
    obtain ⟨_, _, _, a3, a4⟩ := of_ocspSpec_eq_ok env o eo h2
    rcases hv with ⟨hne, hv⟩ | hv
    · cases hv.symm.trans (a3 hne)
    · cases hv.symm.trans a4

def ValidCrl (env : Env) (c : RawCrl) : Prop :=
  parseStorageType c.storage ≠ none ∧ parseSignatureValidationMode c.sigMode ≠ none ∧
  (c.interval = "" ∨ ∃ d, env.dur c.interval = some d ∧ 0 < d) ∧ c.signers.all env.certOk = true ∧
  (∀ d, c.cdp = some d → parseCRLFetchMode d.fetchMode ≠ none)

def ValidOcsp (env : Env) (o : RawOcsp) : Prop :=
  (o.cacheDuration = "" ∨ env.dur o.cacheDuration ≠ none) ∧ o.responders.all env.certOk = true

theorem crlSpec_ok_of_valid (env : Env) (c : RawCrl) (h : ValidCrl env c) : ∃ ec, crlSpec env c = .ok ec := by
  obtain ⟨h1, h2, h3, h4, h5⟩ := h
  obtain ⟨st, hst⟩ := Option.ne_none_iff_exists'.mp h1
  obtain ⟨sg, hsg⟩ := Option.ne_none_iff_exists'.mp h2
  obtain ⟨iv, hiv⟩ := parseDurationField_ok_of_valid env c.interval 1800000000000 true
    (h3.imp id (fun ⟨d, hd, hp⟩ => ⟨d, hd, fun _ => hp⟩))
  unfold crlSpec
  simp only [hst, hsg, hiv, h4, optRes, Res.bind_ok, if_true]
  rcases hc : c.cdp with _ | d
  · exact ⟨_, rfl⟩
  · obtain ⟨m, hm⟩ := Option.ne_none_iff_exists'.mp (h5 d hc)
    simp only [hm, Res.map_ok]
    exact ⟨_, rfl⟩

theorem ocspSpec_ok_of_valid (env : Env) (o : RawOcsp) (h : ValidOcsp env o) : ∃ eo, ocspSpec env o = .ok eo := by
  obtain ⟨h1, h2⟩ := h
  obtain ⟨cd, hcd⟩ := parseDurationField_ok_of_valid env o.cacheDuration 0 false
    (h1.imp id (fun h => by
      obtain ⟨d, hd⟩ := Option.ne_none_iff_exists'.mp h
      exact ⟨d, hd, fun hf => absurd hf (by simp)⟩))
  unfold ocspSpec
  simp only [hcd, h2, Res.bind_ok, if_true, Res.map_ok]
  exact ⟨_, rfl⟩

/-- What CRL checking needs (README): a `crl_config` with an existing `work_dir`, acceptable configured CRLs. -/
def CrlReady (env : Env) (raw : RawCfg) : Prop :=
  ∃ c, raw.crl = some c ∧ c.workDir ≠ "" ∧ env.path c.workDir = .dir ∧
    c.urls.all env.crlOk = true ∧ c.files.all env.crlOk = true

/-! ### No panic -/

theorem crlSpec_interval_pos (env : Env) (c : RawCrl) (ec : EffCrl) (h : crlSpec env c = .ok ec) : 0 < ec.intervalNs := by
  obtain ⟨_, _, _, _, _, _, a7, a7', _⟩ := of_crlSpec_eq_ok env c ec h
  by_cases he : c.interval = ""
  · rw [a7 he]; decide
  · exact (a7' he).2

theorem crlSpec_ne_panic (env : Env) (raw : RawCrl) : crlSpec env raw ≠ .panic := by
  refine Res.bind_ne_panic _ _ (optRes_ne_panic _) fun _ _ => Res.bind_ne_panic _ _ (optRes_ne_panic _) fun _ _ =>
    Res.bind_ne_panic _ _ (parseDurationField_ne_panic _ _ _ _) fun _ _ => Res.bind_ne_panic _ _ ?_ fun _ _ =>
    Res.map_ne_panic _ _ ?_
  · split <;> simp
  · cases raw.cdp
    · simp
    · exact Res.map_ne_panic _ _ (optRes_ne_panic _)

theorem ocspSpec_ne_panic (env : Env) (raw : RawOcsp) : ocspSpec env raw ≠ .panic := by
  refine Res.bind_ne_panic _ _ (parseDurationField_ne_panic _ _ _ _) fun _ _ => Res.map_ne_panic _ _ ?_
  split <;> simp

theorem crlPart_ne_panic (env : Env) (o : Option RawCrl) : crlPart env o ≠ .panic := by
  cases o
  · simp [crlPart]
  · exact Res.map_ne_panic _ _ (crlSpec_ne_panic env _)

theorem ocspPart_ne_panic (env : Env) (o : Option RawOcsp) : ocspPart env o ≠ .panic := by
  cases o
  · simp [ocspPart]
  · exact Res.map_ne_panic _ _ (ocspSpec_ne_panic env _)

/-- `hchk`: JSON path: always; Caddyfile path: `UnmarshalCaddyfile` has parsed the same mode string. -/
theorem provisionSpec_ne_panic (env : Env) (raw : RawCfg) (chk : Bool)
    (hchk : ∀ m, parseMode raw.mode = some m → crlEnabled m = true → chk = true) :
    provisionSpec env raw chk ≠ .panic := by
  refine Res.bind_ne_panic _ _ (crlPart_ne_panic _ _) fun crlP hc =>
    Res.bind_ne_panic _ _ (ocspPart_ne_panic _ _) fun _ _ =>
    Res.bind_ne_panic _ _ (optRes_ne_panic _) fun m hm =>
    Res.bind_ne_panic _ _ (validateSpec_ne_panic _ _ _) fun _ hv => Res.map_ne_panic _ _ ?_
  cases hce : crlEnabled m
  · simp
  · -- validation has seen a `crl_config`, so parseCRLConfig has run and left a positive interval
    obtain ⟨c, hrc, _⟩ := (validateSpec_eq_ok env raw m _).mp hv hce
    rw [hrc] at hc
    obtain ⟨ec, rfl, hec⟩ := (crlPart_eq_ok _ _ _).mp hc
    simp only [if_true, hchk m ((optRes_eq_ok _ _).mp hm) hce]
    exact crlProvision_ne_panic env ec (crlSpec_interval_pos env c ec hec)

/-! ### The Caddyfile path is the Caddyfile parser followed by the JSON path -/

/-- The mode parse and the validation that `UnmarshalCaddyfile` runs ahead of `Provision` change nothing: `Provision`
repeats both, and its CRL checker exists whenever the (same) mode enables CRL checking. Both sides never panic and
succeed with the same validators. -/
theorem provisionSpec_after_unmarshal (env : Env) (raw : RawCfg) :
    ((optRes (parseMode raw.mode)).bind fun m =>
      (validateSpec env raw m).bind fun _ => provisionSpec env raw (crlEnabled m)) = provisionSpec env raw true := by
  refine Res.eq_of_ok_iff ?_ (provisionSpec_ne_panic env raw true fun _ _ _ => rfl) fun e => ?_
  · refine Res.bind_ne_panic _ _ (optRes_ne_panic _) fun m hm =>
      Res.bind_ne_panic _ _ (validateSpec_ne_panic _ _ _) fun _ _ => provisionSpec_ne_panic env _ _ fun m' hm' h => ?_
    cases ((optRes_eq_ok _ _).mp hm).symm.trans hm'
    exact h
  · simp only [Res.bind_eq_ok, optRes_eq_ok, validateSpec_eq_ok, provisionSpec_eq_ok]
    exact ⟨fun ⟨_, _, _, _, h, _⟩ => ⟨h, fun _ => trivial⟩, fun ⟨h, _⟩ => ⟨e.mode, h.mode, (), h.workDir, h, id⟩⟩

theorem loadCaddyfile_eq_parse_loadJSON (env : Env) (toks : List Tok) :
    loadCaddyfile Fx env toks = (parseCaddyfile K toks).bind (loadJSON L env) := by
  rw [loadCaddyfile_eq, unmarshalCaddyfile_eq, Res.bind_assoc]
  refine congrArg _ (funext fun raw => ?_)
  -- `Fx.load` is `L` by `rfl`; written out so that `unmarshal_closed` matches
  show (runUSteps L env raw L.unmarshalSteps (VState.zero L)).bind _ = _
  simp only [unmarshal_closed, Res.bind_assoc, Res.bind_map]
  exact (congrArg _ (funext fun m => congrArg _ (funext fun _ => provision_closed env raw m))).trans
    ((provisionSpec_after_unmarshal env raw).trans (loadJSON_closed env raw).symm)

/-! ### Lines of `crl_config` for different options commute -/

/-- What a key of `crl_config` does if it is a scalar or list option; `none` for `cdp_config` and for unknown keys. -/
def crlLeaf (k : String) : Option (Act CrlField) :=
  match lookupKey k K.crl.keys with
  | some (.str f) => some (.str f)
  | some (.append f) => some (.append f)
  | _ => none

def actField : Act CrlField → CrlField
  | .str f | .append f | .parsedBool f | .constBool f _ | .sub f => f

-- No `assign`: `K.crl.byPointer` is `true`; `procEntry_leaf` checks this by evaluation and breaks if the regenerated
-- flag changes.
def applyLeaf (a : Act CrlField) (v : String) (s : RawCrl) : RawCrl :=
  match a with
  | .str f => (crlSetters K).setStr f v s
  | .append f => (crlSetters K).append f v s
  | _ => s

theorem crlLeaf_lookup {k : String} {a : Act CrlField} (h : crlLeaf k = some a) : lookupKey k K.crl.keys = some a := by
  unfold crlLeaf at h
  split at h <;> first | (cases h; assumption) | cases h

theorem procEntry_leaf {k : String} {a : Act CrlField} (h : crlLeaf k = some a) (v : String) (s : RawCrl) :
    procEntry K.crl (crlSetters K) (line k v) s = .ok (applyLeaf a v s) := by
  unfold crlLeaf at h
  split at h
  · rename_i f hl; cases h; exact procEntry_line_str K.crl _ hl v s
  · rename_i f hl; cases h; exact procEntry_line_append K.crl _ hl v s
  · cases h

theorem _root_.List.Nodup.eq_of_map_eq {α β : Type} {g : α → β} {l : List α} (h : (l.map g).Nodup) {x y : α}
    (hx : x ∈ l) (hy : y ∈ l) (e : g x = g y) : x = y :=
  have p : l.Pairwise fun a b => g a ≠ g b := List.pairwise_map.mp h
  List.Pairwise.forall_of_forall_of_flip (R := fun a b => g a = g b → a = b) (fun _ _ _ => rfl)
    (p.imp fun n e => absurd e n) (p.imp fun n e => absurd e.symm n) hx hy e

theorem crl_fields_nodup : (K.crl.keys.map fun p => actField p.2).Nodup := by decide

/-- Different options never share a field (so their lines commute). -/
theorem crl_keys_distinct_fields (k1 k2 : String) (a1 a2 : Act CrlField)
    (h1 : crlLeaf k1 = some a1) (h2 : crlLeaf k2 = some a2) (hk : k1 ≠ k2) : actField a1 ≠ actField a2 := fun e =>
  hk (congrArg Prod.fst (crl_fields_nodup.eq_of_map_eq (lookupKey_mem (crlLeaf_lookup h1))
    (lookupKey_mem (crlLeaf_lookup h2)) e))

theorem applyLeaf_comm (a1 a2 : Act CrlField) (hf : actField a1 ≠ actField a2) (v1 v2 : String) (s : RawCrl) :
    applyLeaf a2 v2 (applyLeaf a1 v1 s) = applyLeaf a1 v1 (applyLeaf a2 v2 s) := by
  -- An action that writes nothing (not `str`/`append`, or on a field of the other kind) commutes with everything by
  -- `rfl` as soon as it is known; only the seven writing actions are paired with one another.
  rcases a1 with f1 | f1 | _ | _ | _ <;> try rfl
  all_goals cases f1 <;> try rfl
  all_goals rcases a2 with f2 | f2 | _ | _ | _ <;> try rfl
  all_goals cases f2 <;> first | rfl | exact absurd rfl hf

end Crv.Config.Closed
