import Crv.Chunk
/-!
Lemmas about the chunked reader model (`Crv/Chunk.lean`). Every operation takes a prefix `d` off the unread input
`flat s`: `Adv` ("advance") says so for the operations of `bufio.Reader`, which touch nothing but the byte source,
`Took` for the wrapper, which also counts and hashes `d`. Both compose, so a loop is the composition of its rounds, and
what a loop takes is `(flat s).take k`.

The specifications of the inner operations are stated about an `r` with `hr : f … = r`, so that their conjuncts can say
`r.1.1` (bytes), `r.1.2` (`io.EOF` flag), `r.2` (state) instead of the call; callers pass `rfl` and generalise the call.
-/
-- In the namespace of `Crv/Props/C06Chunk.lean`, whose statements name it; defined here because `bRead_spec` needs it.
namespace Crv.Props.C06.Chunk

/-- Empty buffer and an `io.EOF` pending in `b.err`: the one state in which a zero-byte read fails. -/
def Pending (s : Crv.Chunk.St) : Prop := s.buf = [] ∧ s.err = true

instance (s : Crv.Chunk.St) : Decidable (Pending s) := by unfold Pending; infer_instance

end Crv.Props.C06.Chunk

namespace Crv.Chunk
open Crv.Props.C06.Chunk (Pending)

theorem take_append_of_length_le {d r : Bytes} {k : Nat} (h : d.length ≤ k) :
    (d ++ r).take k = d ++ r.take (k - d.length) := by
  rw [List.take_append, List.take_of_length_le h]

/-! ### the underlying `io.Reader` -/

theorem srcRead_spec (m : Nat) (src : List Bytes) (hne : ∀ c ∈ src, c ≠ []) (hm : 0 < m) :
    (srcRead m src).1 ++ (srcRead m src).2.1.flatten = src.flatten ∧
    (∀ c ∈ (srcRead m src).2.1, c ≠ []) ∧
    (srcRead m src).1.length ≤ m ∧
    ((srcRead m src).2.2 = true ↔ src = []) ∧
    ((srcRead m src).1 = [] ↔ src = []) ∧
    (src = [] → (srcRead m src).2.1 = []) := by
  fun_cases srcRead m src
  case case1 => simp
  all_goals
    rename_i c rest h
    have hc : c ≠ [] := hne c (by simp)
    have hl : 0 < c.length := List.length_pos_iff.mpr hc
    have hrest : ∀ c ∈ rest, c ≠ [] := fun x hx => hne x (by simp [hx])
  · exact ⟨rfl, hrest, h, by simp, by simpa using hc, by simp⟩
  · refine ⟨by simp [← List.append_assoc], ?_, by simp; omega, by simp,
      by simp [List.take_eq_nil_iff]; exact ⟨by omega, hc⟩, by simp⟩
    intro x hx
    rcases List.mem_cons.mp hx with rfl | hx
    · exact List.length_pos_iff.mp (by simp; omega)
    · exact hrest x hx

/-! ### `Adv`: a step of `bufio.Reader` -/

/-- The fields outside the byte source – those of the wrapper (`W`) and the logs `allocs`, `parts` – are the same
(`srcReads` is bounded by `Adv.reads`). -/
structure SameW (s s' : St) : Prop where
  cap : s'.cap = s.cap
  pos : s'.pos = s.pos
  hashing : s'.hashing = s.hashing
  hashed : s'.hashed = s.hashed
  allocs : s'.allocs = s.allocs
  parts : s'.parts = s.parts

theorem SameW.refl (s : St) : SameW s s := ⟨rfl, rfl, rfl, rfl, rfl, rfl⟩

theorem SameW.trans {a b c : St} (h₁ : SameW a b) (h₂ : SameW b c) : SameW a c :=
  ⟨h₂.cap.trans h₁.cap, h₂.pos.trans h₁.pos, h₂.hashing.trans h₁.hashing, h₂.hashed.trans h₁.hashed,
    h₂.allocs.trans h₁.allocs, h₂.parts.trans h₁.parts⟩

theorem SameW.source {s s' : St} (h : SameW s s') (buf : Bytes) (src : List Bytes) (err : Bool) (n : Nat) :
    SameW s { s' with buf := buf, src := src, err := err, srcReads := n } :=
  ⟨h.cap, h.pos, h.hashing, h.hashed, h.allocs, h.parts⟩

/-- `s'` arises from `s` by taking the bytes `d` off the front of the unread input, with at most `n` reads of the
underlying reader, touching nothing but the byte source, and is well-formed. Every operation of `bufio.Reader` is such
a step; what they differ in is `d`. -/
structure Adv (d : Bytes) (n : Nat) (s s' : St) : Prop where
  flat : flat s = d ++ flat s'
  wf : WF s'
  same : SameW s s'
  reads : s'.srcReads ≤ s.srcReads + n

theorem Adv.refl {s : St} (wf : WF s) : Adv [] 0 s s := ⟨rfl, wf, SameW.refl s, Nat.le_refl _⟩

theorem Adv.trans {d₁ d₂ : Bytes} {n₁ n₂ : Nat} {a b c : St} (h₁ : Adv d₁ n₁ a b) (h₂ : Adv d₂ n₂ b c) :
    Adv (d₁ ++ d₂) (n₁ + n₂) a c :=
  ⟨by rw [h₁.flat, h₂.flat, List.append_assoc], h₂.wf, h₁.same.trans h₂.same,
    by have := h₁.reads; have := h₂.reads; omega⟩

theorem Adv.mono {d : Bytes} {n m : Nat} {s s' : St} (h : Adv d n s s') (hnm : n ≤ m) : Adv d m s s' :=
  ⟨h.flat, h.wf, h.same, by have := h.reads; omega⟩

theorem Adv.take {d : Bytes} {n : Nat} {s s' : St} (h : Adv d n s s') (k : Nat) :
    Adv (d ++ s'.buf.take k) n s { s' with buf := s'.buf.drop k } :=
  ⟨by rw [h.flat, List.append_assoc]; simp only [Chunk.flat]
      rw [← List.append_assoc (s'.buf.take k), List.take_append_drop],
    h.wf, h.same.source _ _ _ _, h.reads⟩

theorem Adv.clearErr {d : Bytes} {n : Nat} {s s' : St} (h : Adv d n s s') : Adv d n s { s' with err := false } :=
  ⟨h.flat, ⟨h.wf.1, fun h => by simp at h, h.wf.2.2⟩, h.same.source _ _ _ _, h.reads⟩

theorem Adv.read {s : St} (wf : WF s) (hb : s.buf = []) {m : Nat} (hm : 0 < m) (k : Nat) :
    Adv ((srcRead m s.src).1.take k) 1 s
      { s with buf := (srcRead m s.src).1.drop k, src := (srcRead m s.src).2.1, srcReads := s.srcReads + 1 } := by
  obtain ⟨h1, h2, _, _, _, h6⟩ := srcRead_spec m s.src wf.1 hm
  exact ⟨by simp [Chunk.flat, hb, ← h1, ← List.append_assoc], ⟨h2, fun h => h6 (wf.2.1 h), wf.2.2⟩,
    (SameW.refl s).source _ _ _ _, Nat.le_refl _⟩

/-! ### `fill` and `bufio.Reader.Read` -/

theorem fill_spec (s : St) (wf : WF s) (hroom : s.buf.length < s.cap) :
    Adv [] 1 s (fill s) ∧
    (((fill s).err = true ∧ (fill s).buf = s.buf) ∨
     ((fill s).err = s.err ∧ s.buf.length < (fill s).buf.length)) := by
  obtain ⟨h1, h2, _, h4, h5, h6⟩ := srcRead_spec (s.cap - s.buf.length) s.src wf.1 (by omega)
  refine ⟨⟨by simp [flat, fill, h1], ⟨h2, fun he => h6 ?_, wf.2.2⟩, (SameW.refl s).source _ _ _ _, Nat.le_refl _⟩, ?_⟩
  · rcases Bool.or_eq_true _ _ ▸ he with he | he
    · exact h4.mp he
    · exact wf.2.1 he
  · by_cases hs : s.src = []
    · exact Or.inl ⟨by simp [fill, h4.mpr hs], by simp [fill, h5.mpr hs]⟩
    · have hd : 0 < (srcRead (s.cap - s.buf.length) s.src).1.length := List.length_pos_iff.mpr (mt h5.mp hs)
      have he : (srcRead (s.cap - s.buf.length) s.src).2.2 = false := by simpa using mt h4.mp hs
      exact Or.inr ⟨by simp [fill, he], by simp [fill]; omega⟩

theorem bRead_spec {m : Nat} {s : St} {r : (Bytes × Bool) × St} (hr : bRead m s = r) (wf : WF s) :
    Adv r.1.1 (min m 1) s r.2 ∧ r.1.1.length ≤ m ∧ (r.2.err = true → s.err = true) ∧
    (r.1.2 = true → r.1.1 = [] ∧ flat s = [] ∧ (0 < m ∨ Pending s)) ∧
    (r.1.2 = false → (0 < m → r.1.1 ≠ []) ∧ (m = 0 → ¬Pending s)) := by
  have hnil : s.buf = [] → s.src = [] → flat s = [] := fun h1 h2 => by simp [flat, h1, h2]
  subst hr
  fun_cases bRead m s
  -- `m = 0`: buffer not empty (1), empty (2: `readErr`)
  case case1 hm hb =>
    subst hm
    exact ⟨Adv.refl wf, Nat.le_refl _, id, by simp, fun _ => ⟨by simp, fun _ hp => hb hp.1⟩⟩
  case case2 hm hb =>
    subst hm
    have hb := Decidable.not_not.mp hb
    exact ⟨(Adv.refl wf).clearErr, Nat.le_refl _, by simp,
      fun he => ⟨rfl, hnil hb (wf.2.1 he), Or.inr ⟨hb, he⟩⟩,
      fun he => ⟨by simp, fun _ h => Bool.eq_false_iff.mp he h.2⟩⟩
  all_goals
    have hm : 0 < m := Nat.pos_of_ne_zero ‹_›
    rw [Nat.min_eq_right hm]
  -- empty buffer, pending EOF: `readErr`
  case case3 hb he =>
    exact ⟨(Adv.refl wf).clearErr.mono (by omega), by simp, by simp,
      fun _ => ⟨rfl, hnil hb (wf.2.1 he), Or.inl hm⟩, by simp⟩
  -- large read, empty buffer: straight into `p`
  case case4 hb he hc _ =>
    obtain ⟨_, _, h3, h4, h5, _⟩ := srcRead_spec m s.src wf.1 hm
    have := Adv.read wf hb hm m
    -- the model does not touch `buf` in this branch; it is `[]` by `hb`, so write it back to match
    -- `{ s with src, srcReads }`
    rw [List.take_of_length_le h3, List.drop_of_length_le h3, ← hb] at this
    exact ⟨this, h3, by simp [he], fun h => ⟨h5.mpr (h4.mp h), hnil hb (h4.mp h), Or.inl hm⟩,
      fun h => ⟨fun _ => mt h5.mp (mt h4.mpr (Bool.eq_false_iff.mp h)), by omega⟩⟩
  -- copy from the buffer
  case case7 hb =>
    have := List.length_pos_iff.mpr hb
    exact ⟨((Adv.refl wf).take m).mono (by omega), by simp; omega, id, by simp,
      fun _ => ⟨fun _ => List.length_pos_iff.mp (by simp; omega), by omega⟩⟩
  -- one read into the buffer (5: it returned nothing; 6: hand out `take m`, keep `drop m`)
  all_goals
    rename_i hb he hc r hd
    have hcap : 0 < s.cap := by have := wf.2.2; omega
    obtain ⟨_, _, h3, h4, h5, _⟩ := srcRead_spec s.cap s.src wf.1 hcap
    have := Adv.read wf hb hcap m
  · rw [hd, List.take_nil, List.drop_nil] at this
    exact ⟨by rw [hb]; exact this, by simp, by simp [he], fun _ => ⟨rfl, hnil hb (h5.mp hd), Or.inl hm⟩,
      fun h => absurd (h4.mpr (h5.mp hd)) (Bool.eq_false_iff.mp h)⟩
  · have := List.length_pos_iff.mpr hd
    exact ⟨Adv.read wf hb hcap m, by simp; omega, by simp [he], by simp,
      fun _ => ⟨fun _ => List.length_pos_iff.mp (by simp; omega), by omega⟩⟩

/-! ### `HashingReaderWrapper.Read` -/

/-- `s'` arises from `s` by consuming the bytes `d` from the front of the unread input: they are counted in the
position and, if `hashes`, hashed when hashing is on; the state stays well-formed and no error becomes pending. This is
what `readFull` and `discard` do to the reader, seen through `flat`; a peek is an `Adv []`. -/
structure Took (d : Bytes) (hashes : Bool) (s s' : St) : Prop where
  flat : flat s = d ++ flat s'
  pos : s'.pos = s.pos + d.length
  hashed : s'.hashed = if hashes && s.hashing then s.hashed ++ d else s.hashed
  hashing : s'.hashing = s.hashing
  cap : s'.cap = s.cap
  wf : WF s'
  err : s'.err = true → s.err = true

theorem Took.trans {d₁ d₂ : Bytes} {hashes : Bool} {a b c : St} (h₁ : Took d₁ hashes a b) (h₂ : Took d₂ hashes b c) :
    Took (d₁ ++ d₂) hashes a c := by
  refine ⟨by rw [h₁.flat, h₂.flat, List.append_assoc], by rw [h₂.pos, h₁.pos, List.length_append, Nat.add_assoc], ?_,
    h₂.hashing.trans h₁.hashing, h₂.cap.trans h₁.cap, h₂.wf, fun e => h₁.err (h₂.err e)⟩
  rw [h₂.hashed, h₁.hashed, h₁.hashing]
  cases hashes <;> cases a.hashing <;> simp

theorem Took.of_allocs {d : Bytes} {hashes : Bool} {s s' : St} {a : List Nat}
    (t : Took d hashes { s with allocs := a } s') : Took d hashes s s' :=
  ⟨t.flat, t.pos, t.hashed, t.hashing, t.cap, t.wf, t.err⟩

theorem Took.of_adv {d : Bytes} {n : Nat} {s s' : St} (a : Adv d n s s') (he : s'.err = true → s.err = true) :
    Took d false s { s' with pos := s'.pos + d.length } :=
  ⟨a.flat, by simp [a.same.pos], by simp [a.same.hashed], a.same.hashing, a.same.cap, a.wf, he⟩

theorem wRead_eq (m : Nat) (s : St) :
    wRead m s = ((bRead m s).1,
      { (bRead m s).2 with
        pos := (bRead m s).2.pos + (bRead m s).1.1.length
        parts := (bRead m s).2.parts ++ [(bRead m s).1.1.length]
        hashed := if s.hashing && !(bRead m s).1.2 then (bRead m s).2.hashed ++ (bRead m s).1.1
                  else (bRead m s).2.hashed }) := by
  unfold wRead
  dsimp only
  split <;> rfl

/-- With `io.EOF` nothing was handed out, so "hashed when hashing" holds of every call. -/
theorem wRead_spec {m : Nat} {s : St} {r : (Bytes × Bool) × St} (hr : wRead m s = r) (wf : WF s) :
    Took r.1.1 true s r.2 ∧ r.1.1.length ≤ m ∧
    r.2.parts = s.parts ++ [r.1.1.length] ∧ r.2.allocs = s.allocs ∧
    r.2.srcReads ≤ s.srcReads + 1 ∧ r.2.srcReads ≤ s.srcReads + m ∧
    (r.1.2 = true → r.1.1 = [] ∧ flat s = [] ∧ (0 < m ∨ Pending s)) ∧
    (r.1.2 = false → (0 < m → r.1.1 ≠ []) ∧ (m = 0 → ¬Pending s)) := by
  subst hr
  obtain ⟨a, b2, b3, b4, b5⟩ := bRead_spec (r := bRead m s) rfl wf
  have c := a.same
  rw [wRead_eq]
  generalize bRead m s = r at *
  obtain ⟨⟨d, e⟩, s1⟩ := r
  dsimp only at *
  refine ⟨⟨a.flat, by rw [c.pos], ?_, c.hashing, c.cap, a.wf, b3⟩, b2, by rw [c.parts], c.allocs,
    Nat.le_trans a.reads (Nat.add_le_add_left (Nat.min_le_right _ _) _),
    Nat.le_trans a.reads (Nat.add_le_add_left (Nat.min_le_left _ _) _), b4, b5⟩
  cases e with
  | false => simp [c.hashed]
  | true => simp [c.hashed, (b4 rfl).1]

/-! ### `ReadExpectedBytesRecursive` -/

/-- The `make([]byte, bytesLeftToRead)` sizes of the iterations of `ReadExpectedBytesRecursive(…, left)` whose
wrapper `Read`s returned `ps` bytes: `left, left - p₁, left - p₁ - p₂, …`. -/
def allocsOf : Nat → List Nat → List Nat
  | _, [] => []
  | left, p :: ps => left :: allocsOf (left - p) ps

/-- `Σᵢ pᵢ · (number of iterations after the i-th)`: what the partial reads save against `left` per iteration. -/
def saved : List Nat → Nat
  | [] => 0
  | p :: ps => p * ps.length + saved ps

theorem allocsOf_length (left : Nat) (ps : List Nat) : (allocsOf left ps).length = ps.length := by
  induction ps generalizing left with
  | nil => rfl
  | cons p ps ih => simp [allocsOf, ih]

theorem allocsOf_sum (left : Nat) (ps : List Nat) (h : ps.sum ≤ left) :
    (allocsOf left ps).sum + saved ps = left * ps.length := by
  fun_induction allocsOf left ps with
  | case1 => simp [saved]
  | case2 left p ps ih =>
    simp only [List.sum_cons] at h
    have hp : p ≤ left := by omega
    have := ih (by omega)
    simp only [saved, List.sum_cons, List.length_cons, Nat.mul_succ]
    have e : (left - p) * ps.length + p * ps.length = left * ps.length := by
      rw [← Nat.add_mul, Nat.sub_add_cancel hp]
    omega

/-- A zero-byte request still takes one iteration, hence `max left 1`; the two `srcReads` bounds are per iteration and
in total. -/
theorem readLoop_run (fuel : Nat) : ∀ {left : Nat} {acc : Bytes} {s : St} {out : Res Bytes × St},
    readLoop fuel left acc s = out → WF s → left < fuel →
    out.1 = (if (flat s).length < left ∨ left = 0 ∧ Pending s then .err .eof
             else .ok (acc ++ (flat s).take left)) ∧
    Took ((flat s).take left) true s out.2 ∧
    ∃ ps : List Nat,
      out.2.parts = s.parts ++ ps ∧ out.2.allocs = s.allocs ++ allocsOf left ps ∧
      1 ≤ ps.length ∧ ps.length ≤ max left 1 ∧
      out.2.srcReads ≤ s.srcReads + ps.length ∧ out.2.srcReads ≤ s.srcReads + left ∧
      ps.sum = ((flat s).take left).length := by
  induction fuel with
  | zero => omega
  | succ fuel ih =>
    intro left acc s out h wf hf
    rw [readLoop] at h
    obtain ⟨t, w2, w3, w4, w5, w5', w6, w7⟩ :=
      wRead_spec (r := wRead left { s with allocs := s.allocs ++ [left] }) rfl wf
    generalize wRead left { s with allocs := s.allocs ++ [left] } = r at *
    obtain ⟨⟨d, e⟩, s1⟩ := r
    dsimp only at *
    have t := t.of_allocs
    have hflat : flat s = d ++ flat s1 := t.flat
    cases e with
    | true =>
      rw [if_pos rfl] at h
      subst h
      obtain ⟨rfl, hnil, hz⟩ := w6 rfl
      have hnil : flat s = [] := hnil
      have hc : ([] : Bytes).length < left ∨ left = 0 ∧ Pending s :=
        (Nat.eq_zero_or_pos left).elim (fun h0 => Or.inr ⟨h0, hz.resolve_left (by omega)⟩) Or.inl
      rw [hnil, List.take_nil, if_pos hc]
      exact ⟨rfl, t, [0], w3, w4, Nat.le_refl _, Nat.le_max_right _ _, w5, w5', rfl⟩
    | false =>
      obtain ⟨w7, w8⟩ := w7 rfl
      rw [if_neg (by simp)] at h
      by_cases hfull : d.length = left
      · rw [if_pos hfull] at h
        subst h
        rw [hflat, List.take_left' hfull,
          if_neg (by rw [List.length_append]; exact fun hc => hc.elim (by omega) (fun hc => w8 hc.1 hc.2))]
        exact ⟨rfl, t, [left], hfull ▸ w3, w4, Nat.le_refl _, Nat.le_max_right _ _, w5, w5', by simp [hfull]⟩
      · rw [if_neg hfull] at h
        have hd : 0 < d.length := List.length_pos_iff.mpr (w7 (by omega))
        obtain ⟨i1, i2, ps, i3, i4, i5, i6, i7, i7', i8⟩ := ih h t.wf (by omega)
        -- more than one round: `left` and what is left of it are positive, the `max` with 1 goes away
        have hl : 1 ≤ left - d.length := by omega
        have hl' : 1 ≤ left := Nat.le_trans hl (Nat.sub_le _ _)
        rw [Nat.max_eq_left hl] at i6
        rw [hflat, take_append_of_length_le w2]
        refine ⟨?_, t.trans i2, d.length :: ps, by rw [i3, w3, List.append_assoc]; rfl,
          by rw [i4, w4, List.append_assoc]; rfl, by simp,
          by rw [Nat.max_eq_left hl', List.length_cons]; omega, by rw [List.length_cons]; omega, by omega,
          by rw [List.sum_cons, i8, List.length_append]⟩
        rw [i1, List.append_assoc, List.length_append]
        by_cases hs : (flat s1).length < left - d.length
        · rw [if_pos (Or.inl hs), if_pos (Or.inl (by omega))]
        · rw [if_neg (by omega), if_neg (by omega)]

theorem readFull_run (k : Nat) (s : St) (wf : WF s) :
    (readFull k s).1 = (if (flat s).length < k ∨ k = 0 ∧ Pending s then .err .eof else .ok ((flat s).take k)) ∧
    Took ((flat s).take k) true s (readFull k s).2 := by
  have wf0 : WF { s with allocs := s.allocs ++ [k] } := wf
  obtain ⟨r, t, _⟩ := readLoop_run (k + 1) (out := readFull k s) rfl wf0 (Nat.lt_succ_self k)
  exact ⟨r, t.of_allocs⟩

/-! ### `Peek` -/

theorem peekLoop_of_err {fuel n : Nat} {s : St} (h : s.err = true) : peekLoop fuel n s = s := by
  cases fuel <;> simp [peekLoop, h]

theorem peekLoop_spec {fuel n : Nat} {s s' : St} (h : peekLoop fuel n s = s') (wf : WF s)
    (hf : n - s.buf.length ≤ fuel) :
    Adv [] fuel s s' ∧ ¬(s'.buf.length < n ∧ s'.buf.length < s'.cap ∧ s'.err = false) ∧
    (s'.err = true → s.err = true ∨ s'.buf.length < n) := by
  fun_induction peekLoop fuel n s generalizing s' with
  | case1 n s =>
    subst h
    exact ⟨Adv.refl wf, fun hc => by omega, Or.inl⟩
  | case2 fuel n s hc ih =>
    obtain ⟨a, g⟩ := fill_spec s wf hc.2.1
    rcases g with g | g
    · rw [peekLoop_of_err g.1] at h
      subst h
      exact ⟨a.mono (by omega), by simp [g.1], fun _ => Or.inr (g.2 ▸ hc.1)⟩
    · obtain ⟨i1, i2, i3⟩ := ih h a.wf (by omega)
      exact ⟨(a.trans i1).mono (by omega), i2, fun he => (i3 he).imp_left (by simp [g.1, hc.2.2])⟩
  | case3 fuel n s hc =>
    subst h
    exact ⟨(Adv.refl wf).mono (by omega), hc, Or.inl⟩

theorem bPeek_spec {n : Nat} {s : St} {r : (Bytes × Option EK) × St} (h : bPeek n s = r) (wf : WF s)
    (hn : n ≤ s.cap) :
    Adv [] n s r.2 ∧ (r.2.err = true → s.err = true) ∧
    (if (flat s).length < n then r.1.2 = some .eof else r.1 = ((flat s).take n, none)) := by
  obtain ⟨a, p2, p3⟩ := peekLoop_spec (s' := peekLoop n n s) rfl wf (by omega)
  unfold bPeek at h
  dsimp only at h
  generalize peekLoop n n s = s1 at *
  have hcap : s1.cap = s.cap := a.same.cap
  have hflat : flat s = s1.buf ++ s1.src.flatten := a.flat
  rw [if_neg (by omega)] at h
  by_cases hlt : s1.buf.length < n
  · rw [if_pos hlt] at h
    subst h
    have herr : s1.err = true := by simpa using fun he => p2 ⟨hlt, by omega, he⟩
    exact ⟨a.clearErr, by simp, by simp [hflat, a.wf.2.1 herr, hlt, herr]⟩
  · rw [if_neg hlt] at h
    subst h
    rw [hflat, List.take_append_of_le_length (by omega)]
    exact ⟨a, fun he => (p3 he).resolve_right hlt, by rw [if_neg (by simp; omega)]⟩

/-- Unlike `bPeek_spec` this says nothing about `err`: in the model an `io.EOF` met on the way stays pending
(`-- b.err stays pending`), which is where `Pending` states come from. -/
theorem bPeek_beyond {n : Nat} {s : St} {r : (Bytes × Option EK) × St} (h : bPeek n s = r) (wf : WF s)
    (hn : s.cap < n) : r.1.2 = some .bufferFull ∧ Adv [] n s r.2 := by
  obtain ⟨a, _⟩ := peekLoop_spec (s' := peekLoop n n s) rfl wf (by omega)
  unfold bPeek at h
  rw [if_pos (by rw [a.same.cap]; exact hn)] at h
  subst h
  exact ⟨rfl, a⟩

/-! ### `Discard` -/

theorem fillIfEmpty_spec {s s1 : St} (h : (if s.buf = [] then fill s else s) = s1) (wf : WF s) :
    Adv [] 1 s s1 ∧ (s1.err = false → s1.buf ≠ []) ∧ (s1.err = true → s.err = true ∨ s1.buf = []) := by
  by_cases hb : s.buf = []
  · rw [if_pos hb] at h
    subst h
    obtain ⟨a, g⟩ := fill_spec s wf (by have := wf.2.2; simp [hb]; omega)
    refine ⟨a, fun he => ?_, fun he => ?_⟩
    · rcases g with g | g
      · simp [g.1] at he
      · exact List.length_pos_iff.mp (by omega)
    · exact g.elim (fun g => Or.inr (g.2 ▸ hb)) (fun g => Or.inl (g.1 ▸ he))
  · rw [if_neg hb] at h
    subst h
    exact ⟨(Adv.refl wf).mono (by omega), fun _ => hb, Or.inl⟩

theorem discLoop_succ (fuel n remain : Nat) (s s1 : St) (h : (if s.buf = [] then fill s else s) = s1) :
    discLoop (fuel + 1) n remain s =
      if remain ≤ s1.buf.length then ((n, false), { s1 with buf := s1.buf.drop remain })
      else if s1.err then ((n - (remain - s1.buf.length), true), { s1 with buf := [], err := false })
      else discLoop fuel n (remain - s1.buf.length) { s1 with buf := [] } := by
  subst h
  rw [discLoop]
  dsimp only
  generalize (if s.buf = [] then fill s else s) = s1
  by_cases hle : remain ≤ s1.buf.length
  · rw [if_pos hle, Nat.min_eq_right hle, if_pos (Nat.sub_self _)]
  · rw [if_neg hle, Nat.min_eq_left (by omega), if_neg (by omega), List.drop_length]

theorem discLoop_spec (fuel : Nat) : ∀ {n remain : Nat} {s : St} {r : (Nat × Bool) × St},
    discLoop fuel n remain s = r → WF s → 0 < remain → remain ≤ fuel →
    Adv ((flat s).take remain) remain s r.2 ∧ (r.2.err = true → s.err = true) ∧
    r.1 = (if (flat s).length < remain then (n - (remain - (flat s).length), true) else (n, false)) := by
  induction fuel with
  | zero => omega
  | succ fuel ih =>
    intro n remain s r h wf hr hf
    obtain ⟨a, q1, q2⟩ := fillIfEmpty_spec (s1 := if s.buf = [] then fill s else s) rfl wf
    rw [discLoop_succ fuel n remain s _ rfl] at h
    generalize (if s.buf = [] then fill s else s) = s1 at *
    have hflat : flat s = s1.buf ++ s1.src.flatten := a.flat
    by_cases hle : remain ≤ s1.buf.length
    · rw [if_pos hle] at h
      subst h
      rw [hflat, List.take_append_of_le_length hle, if_neg (by simp; omega)]
      exact ⟨(a.take remain).mono (by omega),
        fun he => (q2 he).resolve_right (List.length_pos_iff.mp (by omega)), rfl⟩
    rw [if_neg hle] at h
    have b := a.take s1.buf.length
    rw [List.take_length, List.drop_length, List.nil_append] at b
    by_cases he : s1.err = true
    · rw [if_pos he] at h
      subst h
      have hflat : flat s = s1.buf := by rw [hflat, a.wf.2.1 he, List.flatten_nil, List.append_nil]
      rw [hflat, List.take_of_length_le (by omega), if_pos (by omega)]
      exact ⟨b.clearErr.mono (by omega), by simp, rfl⟩
    · rw [if_neg he] at h
      have hpos := List.length_pos_iff.mpr (q1 (by simpa using he))
      obtain ⟨i1, i2, i3⟩ := ih h b.wf (by omega) (by omega)
      rw [hflat, take_append_of_length_le (by omega)]
      refine ⟨(b.trans i1).mono (by omega), fun e => absurd (i2 e) he, ?_⟩
      have i3 : r.1 = if s1.src.flatten.length < remain - s1.buf.length then
          (n - (remain - s1.buf.length - s1.src.flatten.length), true) else (n, false) := i3
      rw [i3, List.length_append]
      by_cases hs : s1.src.flatten.length < remain - s1.buf.length
      · rw [if_pos hs, if_pos (by omega), Nat.sub_sub]
      · rw [if_neg hs, if_neg (by omega)]

/-! ### `PeekExpectedBytes` and `HashingReaderWrapper.Discard` -/

theorem peekExpected_eq (n off : Nat) (s : St) :
    peekExpected n off s =
      (match (bPeek (n + off) s).1.2 with
        | some e => .err e
        | none => .ok (((bPeek (n + off) s).1.1.drop off).take n), (bPeek (n + off) s).2) := by
  unfold peekExpected
  dsimp only
  cases (bPeek (n + off) s).1.2 <;> rfl

theorem discard_eq (k : Nat) (s : St) :
    discard k s =
      (if (bDiscard k s).1.2 then .err .eof else if (bDiscard k s).1.1 < k then .err .stalled else .ok (),
       { (bDiscard k s).2 with pos := (bDiscard k s).2.pos + (bDiscard k s).1.1 }) := by
  unfold discard
  dsimp only
  split
  · rfl
  · split <;> rfl

theorem peekExpected_run (n off : Nat) (s : St) (wf : WF s) (h : n + off ≤ s.cap) :
    (peekExpected n off s).1 =
      (if (flat s).length < n + off then .err .eof else .ok (((flat s).drop off).take n)) ∧
    Adv [] (n + off) s (peekExpected n off s).2 ∧ ((peekExpected n off s).2.err = true → s.err = true) := by
  obtain ⟨a, p2, p3⟩ := bPeek_spec (r := bPeek (n + off) s) rfl wf h
  rw [peekExpected_eq]
  refine ⟨?_, a, p2⟩
  split at p3
  · rw [p3, if_pos ‹_›]
  · rw [p3, if_neg ‹_›, List.drop_take, Nat.add_sub_cancel, List.take_take, Nat.min_self]

theorem peekExpected_beyond (n off : Nat) (s : St) (wf : WF s) (h : s.cap < n + off) :
    (peekExpected n off s).1 = .err .bufferFull ∧ Adv [] (n + off) s (peekExpected n off s).2 := by
  obtain ⟨p1, a⟩ := bPeek_beyond (r := bPeek (n + off) s) rfl wf h
  rw [peekExpected_eq, p1]
  exact ⟨rfl, a⟩

theorem discard_run (k : Nat) (s : St) (wf : WF s) :
    (discard k s).1 = (if (flat s).length < k then .err .eof else .ok ()) ∧
    Took ((flat s).take k) false s (discard k s).2 ∧ (discard k s).2.srcReads ≤ s.srcReads + k := by
  rw [discard_eq]
  fun_cases bDiscard k s
  case case1 hk =>
    subst hk
    exact ⟨rfl, Took.of_adv (Adv.refl wf) id, Nat.le_refl _⟩
  case case2 hk =>
    obtain ⟨a, d2, d3⟩ := discLoop_spec k (r := discLoop k k k s) rfl wf (by omega) (Nat.le_refl k)
    generalize discLoop k k k s = r at *
    have t := Took.of_adv a d2
    by_cases hlt : (flat s).length < k
    · rw [if_pos hlt] at d3 ⊢
      rw [List.take_of_length_le (Nat.le_of_lt hlt)] at t ⊢
      rw [d3, Nat.sub_sub_self (Nat.le_of_lt hlt)]
      exact ⟨rfl, t, a.reads⟩
    · rw [if_neg hlt] at d3 ⊢
      rw [List.length_take, Nat.min_eq_left (Nat.le_of_not_lt hlt)] at t
      rw [d3]
      exact ⟨by rw [if_neg (by simp), if_neg (Nat.lt_irrefl k)], t, a.reads⟩

end Crv.Chunk
