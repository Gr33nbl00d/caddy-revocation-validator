import Crv.Reader
/-!
Safety of the parsers of the reader model for **every** input (C07): no panic, every allocation request bounded, the entry loop
never stalls. The parsers are walked once (`Safe`), with the invariant and the initial state as variables: the allocation
bound (`AllocOK B`, `stable_allocOK`) and the file synchronisation of `ReaderEnvelope` (`Step`, `stable_step`) are instances of
the invariant, and the postcondition, which may mention the initial state, says what a successful run returns and how far it
moved (`Moved`; `SafeFor.ok` reads it off a run). The walk here goes as far as the first pass (`safe_prescan`); the second
pass (`safe_readBody`) and C07's theorem about `readCRL` (`readCRL_safe`) are in `ReaderEnvelope`.
-/
namespace Crv
open Crv.Generated

/-- From `r`, `m` does not panic, never reports `stalled`, keeps every invariant of the class `S` on every outcome, and on
success value and final state satisfy `Q`. Pointwise in `r`, so that `Q` can relate the final state to the initial one and the
bind rule needs no existential; generic in `S`, because the second pass keeps fewer invariants (`Stable₂`) than the parsers. -/
def SafeFor (S : (Rd → Prop) → Prop) (m : RdM α) (r : Rd) (Q : α → Rd → Prop) : Prop :=
  ∀ I, S I → I r →
    match m r with
    | .ok a r' => I r' ∧ Q a r'
    | .err e r' => I r' ∧ e ≠ .stalled
    | .panic _ => False

section
variable {S : (Rd → Prop) → Prop} {r : Rd}

/-- `h` read on a successful run, for one invariant `I`; `SafeFor.ok` is this with `I := True`. -/
theorem SafeFor.keeps {m : RdM α} {Q : α → Rd → Prop} (h : SafeFor S m r Q) {I : Rd → Prop} (hI : S I) (hr : I r)
    {a : α} {r' : Rd} (he : m r = .ok a r') : I r' ∧ Q a r' := by
  have := h I hI hr; rw [he] at this; exact this

theorem SafeFor.mono {m : RdM α} {Q Q' : α → Rd → Prop} (h : SafeFor S m r Q) (hq : ∀ a r', Q a r' → Q' a r') :
    SafeFor S m r Q' := by
  intro I hI hr
  have := h I hI hr
  cases hres : m r with
  | ok a r' => rw [hres] at this; exact ⟨this.1, hq a r' this.2⟩
  | err e r' => rw [hres] at this; exact this
  | panic r' => rw [hres] at this; exact this

theorem safe_pure {a : α} {Q : α → Rd → Prop} (h : Q a r) : SafeFor S (pure a : RdM α) r Q := fun _ _ hr => ⟨hr, h⟩

theorem safe_fail (e : Err) (he : e ≠ .stalled := by decide) {Q : α → Rd → Prop} : SafeFor S (fail e : RdM α) r Q :=
  fun _ _ hr => ⟨hr, he⟩

theorem SafeFor.bind {m : RdM α} {f : α → RdM β} {Q : α → Rd → Prop} {R : β → Rd → Prop}
    (hm : SafeFor S m r Q) (hf : ∀ a r', Q a r' → SafeFor S (f a) r' R) : SafeFor S (m >>= f) r R := by
  intro I hI hr
  have h1 := hm I hI hr
  show match RdM.bind m f r with | .ok a r' => _ | .err e r' => _ | .panic _ => _
  unfold RdM.bind
  cases hres : m r with
  | ok a r' => rw [hres] at h1; exact hf a r' h1.2 I hI h1.1
  | err e r' => rw [hres] at h1; exact h1
  | panic r' => rw [hres] at h1; exact h1

theorem SafeFor.ignoreErr {m : RdM α} {Q : α → Rd → Prop} (hm : SafeFor S m r Q) :
    SafeFor S (ignoreErr m) r (fun _ _ => True) := by
  intro I hI hr
  have h1 := hm I hI hr
  unfold Crv.ignoreErr
  cases hres : m r with
  | ok a r' => rw [hres] at h1; exact ⟨h1.1, trivial⟩
  | err e r' => rw [hres] at h1; exact ⟨h1.1, trivial⟩
  | panic r' => rw [hres] at h1; exact h1

theorem safe_ite {c : Prop} [Decidable c] {m₁ m₂ : RdM α} {Q : α → Rd → Prop}
    (h₁ : c → SafeFor S m₁ r Q) (h₂ : ¬c → SafeFor S m₂ r Q) : SafeFor S (if c then m₁ else m₂) r Q := by
  split
  · exact h₁ ‹_›
  · exact h₂ ‹_›

theorem safe_check {c : Prop} [Decidable c] (e : Err) (he : e ≠ .stalled := by decide) :
    SafeFor S (if c then (pure () : RdM Unit) else fail e) r (fun _ r' => c ∧ r = r') :=
  safe_ite (fun hc => safe_pure ⟨hc, rfl⟩) (fun _ => safe_fail e he)

/-- `getPos`, `getHashed`, `getHashFrom`. -/
theorem safe_get (g : Rd → α) : SafeFor S (fun r => Res.ok (g r) r) r (fun a r' => a = g r ∧ r = r') :=
  fun _ _ hr => ⟨hr, rfl, rfl⟩

end

/-- An invariant of the reader state that survives what the parsers do to the state: consuming input (hashed while
hashing is on), allocation requests of at most `B` bytes, an event, a leaf-decoder query satisfying `A`. The parsers do
nothing else, so one walk through them serves every such invariant (`stable_allocOK`, `stable_step`). -/
structure Stable (B : Nat) (A : Query → Prop) (I : Rd → Prop) : Prop where
  consume : ∀ r n, n ≤ r.rest.length → I r →
    I { r with rest := r.rest.drop n, pos := r.pos + n,
               hashed := if r.hashing then r.hashed ++ r.rest.take n else r.hashed }
  allocs : ∀ r l, (∀ a ∈ l, a.size ≤ B) → I r → I { r with allocs := r.allocs ++ l }
  event : ∀ r e, I r → I { r with events := r.events ++ [e] }
  query : ∀ r q, A q → I r → I { r with queries := r.queries ++ [q] }

abbrev anyQuery : Query → Prop := fun _ => True

abbrev Safe (B : Nat) (A : Query → Prop) (m : RdM α) (r : Rd) (Q : α → Rd → Prop) : Prop :=
  SafeFor (Stable B A) m r Q

def AllocOK (B : Nat) (r : Rd) : Prop := ∀ a ∈ r.allocs, a.size ≤ B

theorem allocOK_init (file : Bytes) : AllocOK B ({ rest := file } : Rd) := by
  intro a ha; cases ha

theorem stable_allocOK (B : Nat) (A : Query → Prop) : Stable B A (AllocOK B) where
  consume _ _ _ h := h
  allocs r l hl h := by
    intro a ha
    rcases List.mem_append.mp ha with ha | ha
    · exact h a ha
    · exact hl a ha
  event _ _ h := h
  query _ _ _ h := h

theorem stable_true (B : Nat) (A : Query → Prop) : Stable B A (fun _ => True) :=
  ⟨fun _ _ _ _ => trivial, fun _ _ _ _ => trivial, fun _ _ _ => trivial, fun _ _ _ _ => trivial⟩

/-- Stated for `anyQuery`, the instance every parser's lemma has: neither `B` nor the query predicate occurs in the
conclusion. -/
theorem SafeFor.ok {m : RdM α} {Q : α → Rd → Prop} {r r' : Rd} {a : α} (h : Safe B anyQuery m r Q)
    (he : m r = .ok a r') : Q a r' :=
  (h.keeps (stable_true _ _) trivial he).2

/-- `r'` is `r` after exactly `n` more bytes were consumed and the leaf-decoder queries `lq` were logged: what a successful
parser does to position, input and query log, in the form that composes (`trans` adds the counts and appends the logs). -/
structure Moved (n : Nat) (lq : List Query) (r r' : Rd) : Prop where
  le : n ≤ r.rest.length
  rest : r'.rest = r.rest.drop n
  pos : r'.pos = r.pos + n
  hashing : r'.hashing = r.hashing
  queries : r'.queries = r.queries ++ lq

theorem moved_zero {r r' : Rd} (h1 : r'.rest = r.rest) (h2 : r'.pos = r.pos) (h3 : r'.hashing = r.hashing)
    (h4 : r'.queries = r.queries) : Moved 0 [] r r' :=
  ⟨Nat.zero_le _, h1, h2, h3, h4.trans (List.append_nil _).symm⟩

theorem Moved.refl (r : Rd) : Moved 0 [] r r := moved_zero rfl rfl rfl rfl

theorem Moved.trans {n k : Nat} {lq lq' : List Query} {r r' r'' : Rd} (h1 : Moved n lq r r') (h2 : Moved k lq' r' r'') :
    Moved (n + k) (lq ++ lq') r r'' := by
  have hk := h2.le
  rw [h1.rest, List.length_drop] at hk
  exact ⟨Nat.add_le_of_le_sub' h1.le hk, by rw [h2.rest, h1.rest, List.drop_drop], by rw [h2.pos, h1.pos, Nat.add_assoc],
    h2.hashing.trans h1.hashing, by rw [h2.queries, h1.queries, List.append_assoc]⟩

theorem Moved.after_peek {n : Nat} {lq : List Query} {r r' r'' : Rd} (h1 : Moved 0 [] r r') (h2 : Moved n lq r' r'') :
    Moved n lq r r'' := by
  have := h1.trans h2
  rwa [Nat.zero_add, List.nil_append] at this

theorem Moved.shrinks {n : Nat} {lq : List Query} {r r' : Rd} (h : Moved n lq r r') (hn : 0 < n) :
    r'.rest.length < r.rest.length := by
  rw [h.rest, List.length_drop]
  exact Nat.sub_lt (Nat.lt_of_lt_of_le hn h.le) hn

section
variable {B : Nat} {A : Query → Prop} {r : Rd}

theorem safe_readN (k : Int) (h0 : 0 ≤ k) (hB : k ≤ (B : Int)) :
    Safe B A (readN k) r (fun bs r' => bs = r.rest.take k.toNat ∧ Moved k.toNat [] r r') := by
  intro I hI hr
  let r1 : Rd := { r with allocs := r.allocs ++ [⟨k.toNat, r.rest.length⟩] }
  have hr1 : I r1 := hI.allocs r [_] (fun a ha => by rw [List.mem_singleton.mp ha]; exact Int.toNat_le.mpr hB) hr
  fun_cases readN k r
  case case1 hk => exact absurd hk (Int.not_lt.mpr h0)
  case case2 hlen =>
    have := hI.consume r1 r.rest.length (Nat.le_refl _) hr1
    simp only [r1, List.drop_length, List.take_length] at this
    exact ⟨this, by decide⟩
  case case3 hlen =>
    exact ⟨hI.consume r1 k.toNat (Nat.le_of_not_lt hlen) hr1, rfl, Nat.le_of_not_lt hlen, rfl, rfl, rfl,
      (List.append_nil _).symm⟩

theorem safe_peekN (n off : Nat) (hB : n ≤ B) :
    Safe B A (peekN n off) r (fun bs r' => bs = (r.rest.drop off).take n ∧ Moved 0 [] r r') := by
  intro I hI hr
  fun_cases peekN n off r
  · exact ⟨hr, by decide⟩
  · exact ⟨hI.allocs r [_] (fun a ha => by rw [List.mem_singleton.mp ha]; exact hB) hr, rfl, moved_zero rfl rfl rfl rfl⟩

theorem safe_emit (e : Event) : Safe B A (emit e) r (fun _ r' => Moved 0 [] r r') :=
  fun _ hI hr => ⟨hI.event r e hr, moved_zero rfl rfl rfl rfl⟩

theorem safe_logQuery (k : QKind) (n : Nat) (hA : ∀ off, A ⟨k, off, n⟩) :
    Safe B A (logQuery k n) r (fun _ r' => Moved 0 [⟨k, r.pos - n, n⟩] r r') :=
  fun _ hI hr => ⟨hI.query r _ (hA _) hr, Nat.zero_le _, rfl, rfl, rfl, rfl⟩

theorem safe_endPosition (len : Nat) : Safe B A (endPosition len) r (fun e r' => e = r.pos + len ∧ r = r') := by
  intro I hI hr
  fun_cases endPosition len r
  · exact ⟨hr, rfl, rfl⟩
  · exact ⟨hr, by decide⟩

theorem safe_expectTag (a b : UInt8) : Safe B A (expectTag a b) r (fun _ r' => a = b ∧ r = r') := safe_check .tag

/-- `onBytes` drops the sub-reader's query log (only its allocations are merged), so its `A'` is unrelated to `A`. -/
theorem safe_onBytes {A' : Query → Prop} (bs : Bytes) {m : RdM α} {Q : α → Rd → Prop}
    (hm : Safe B A' m { rest := bs } Q) : Safe B A (onBytes bs m) r (fun _ r' => Moved 0 [] r r') := by
  intro I hI hr
  have h := hm _ (stable_allocOK B A') (allocOK_init bs)
  unfold Crv.onBytes
  cases hres : m { rest := bs } with
  | ok a r' => rw [hres] at h; exact ⟨hI.allocs r _ h.1 hr, moved_zero rfl rfl rfl rfl⟩
  | err e r' => rw [hres] at h; exact ⟨hI.allocs r _ h.1 hr, h.2⟩
  | panic r' => rw [hres] at h; exact h

end

/-- The bound on every allocation request of the reader: the struct cap plus tag and length bytes. It reduces to 81937; the
property files state the numeral. -/
def allocBound : Nat := 81920 + 17

theorem allocBound_ge : 81937 ≤ allocBound := by decide

theorem narrow64_small {n : Nat} (h : n < 2 ^ 63) : narrow64 n = (n : Int) := by
  unfold narrow64
  have h1 : n % 2 ^ 64 = n := Nat.mod_eq_of_lt (Nat.lt_trans h (by decide))
  simp only [h1, h, ↓reduceIte, Int.ofNat_eq_natCast]

/-- From here on the mask is its regenerated value `0x0f`; a different `lengthCountMask` breaks this lemma and everything
stated with `0x0f` below. -/
theorem mask_le (b : UInt8) : (b &&& lengthCountMask).toNat ≤ 15 := by
  rw [UInt8.toNat_and b lengthCountMask]
  exact Nat.and_le_right

theorem lenFormOk_iff (b : UInt8) : lenFormOk b = true ↔ b &&& 0x70 = 0 ∧ b &&& 0x0f ≠ 0 := by
  simp [lenFormOk, lengthFormStrict, lengthCountMask]

section
variable {B : Nat} {A : Query → Prop} {r : Rd}

theorem head_of_take {b : UInt8} {t rest : Bytes} (h : b :: t = rest.take 1) : ∃ t', rest = b :: t' :=
  ⟨t ++ rest.drop 1, by rw [← List.cons_append, h, List.take_append_drop]⟩

theorem safe_readU8 (hB : 1 ≤ B) : Safe B A readU8 r (fun b r' => (∃ t, r.rest = b :: t) ∧ Moved 1 [] r r') := by
  apply (safe_readN 1 (by decide) (by omega)).bind
  intro bs r' ⟨hbs, ht⟩
  cases bs with
  | nil => exact safe_fail .eof
  | cons b t => exact safe_pure ⟨head_of_take hbs, ht⟩

theorem safe_peekU8 (off : Nat) (hB : 1 ≤ B) :
    Safe B A (peekU8 off) r (fun b r' => (∃ t, r.rest.drop off = b :: t) ∧ Moved 0 [] r r') := by
  apply (safe_peekN 1 off hB).bind
  intro bs r' ⟨hbs, ht⟩
  cases bs with
  | nil => exact safe_fail .eof
  | cons b t => exact safe_pure ⟨head_of_take hbs, ht⟩

/-- `ReadLength` and `PeekLength` after their first byte `b`; `next k` reads or peeks the `k` length bytes (`readLen_eq`,
`peekLen_eq`), so the safety walk (`safe_lenTail`) and the round trip (`det_lenTail_short`, `det_lenTail_long`) treat it
once, not once per reader. -/
def lenTail (b : UInt8) (next : Nat → RdM Bytes) : RdM (Nat × Nat) :=
  if b &&& 0x80 = 0 then pure (b.toNat, 1)
  else if !lenFormOk b then fail .lenForm
  else do
    let bs ← next (b &&& lengthCountMask).toNat
    pure (beNat bs, (b &&& lengthCountMask).toNat + 1)

theorem readLen_eq : readLen = readU8 >>= fun b => lenTail b fun k => readN k := rfl

theorem peekLen_eq (off : Nat) : peekLen off = peekU8 off >>= fun b => lenTail b fun k => peekN k (off + 1) := rfl

/-- `R k` says what `next k` does to the state (a read moves, a peek does not); `R 0` covers the short form, where nothing is read. -/
theorem safe_lenTail (b : UInt8) (next : Nat → RdM Bytes) {R : Nat → Rd → Prop} (h0 : R 0 r)
    (hnext : ∀ k, k ≤ 15 → Safe B A (next k) r (fun _ r' => R k r')) :
    Safe B A (lenTail b next) r (fun p r' => p.2 ≤ 16 ∧ (∃ k, p.2 = k + 1 ∧ R k r') ∧
      (b &&& 0x80 ≠ 0 → b &&& 0x70 = 0 ∧ b &&& 0x0f ≠ 0 ∧ p.2 = (b &&& 0x0f).toNat + 1)) := by
  apply safe_ite
  · intro hb; exact safe_pure ⟨show 1 ≤ 16 by decide, ⟨0, rfl, h0⟩, fun hn => (hn hb).elim⟩
  · intro _
    apply safe_ite
    · intro _; exact safe_fail .lenForm
    · intro hf
      have hform := (lenFormOk_iff b).mp (by simpa only [Bool.not_eq_true', Bool.not_eq_false] using hf)
      apply (hnext _ (mask_le b)).bind
      intro bs r' hR
      exact safe_pure ⟨Nat.succ_le_succ (mask_le b), ⟨_, rfl, hR⟩, fun _ => ⟨hform.1, hform.2, rfl⟩⟩

theorem safe_readLen (hB : 15 ≤ B) :
    Safe B A readLen r (fun p r' => p.2 ≤ 16 ∧ Moved p.2 [] r r' ∧ ∀ b t, r.rest = b :: t → b &&& 0x80 ≠ 0 →
      b &&& 0x70 = 0 ∧ b &&& 0x0f ≠ 0 ∧ p.2 = (b &&& 0x0f).toNat + 1) := by
  rw [readLen_eq]
  apply (safe_readU8 (Nat.le_trans (by decide) hB)).bind
  intro b r1 ⟨⟨t, hr⟩, h1⟩
  apply (safe_lenTail b _ (R := fun k r' => Moved k [] r1 r') (Moved.refl r1) fun k hk =>
    (safe_readN _ (Int.natCast_nonneg k) (Int.ofNat_le.mpr (Nat.le_trans hk hB))).mono fun _ _ h => h.2).mono
  intro p r' ⟨h16, ⟨k, hs, hR⟩, hc⟩
  refine ⟨h16, ?_, fun b' t' hr' => by rw [hr] at hr'; cases hr'; exact hc⟩
  rw [hs, Nat.add_comm]; exact h1.trans hR

theorem safe_peekLen (off : Nat) (hB : 15 ≤ B) :
    Safe B A (peekLen off) r (fun p r' => p.2 ≤ 16 ∧ Moved 0 [] r r' ∧ ∀ b t, r.rest.drop off = b :: t → b &&& 0x80 ≠ 0 →
      b &&& 0x70 = 0 ∧ b &&& 0x0f ≠ 0 ∧ p.2 = (b &&& 0x0f).toNat + 1) := by
  rw [peekLen_eq]
  apply (safe_peekU8 off (Nat.le_trans (by decide) hB)).bind
  intro b r1 ⟨⟨t, hr⟩, h1⟩
  apply (safe_lenTail b _ (R := fun _ r' => Moved 0 [] r r') h1 fun k hk =>
    (safe_peekN _ _ (Nat.le_trans hk hB)).mono fun _ _ h => h1.after_peek h.2).mono
  intro p r' ⟨h16, ⟨_, _, hR⟩, hc⟩
  exact ⟨h16, hR, fun b' t' hr' => by rw [hr] at hr'; cases hr'; exact hc⟩

theorem safe_readTL (hB : 15 ≤ B) :
    Safe B A readTL r (fun tl r' => tl.lenSize ≤ 16 ∧ Moved (1 + tl.lenSize) [] r r') := by
  apply (safe_readU8 (Nat.le_trans (by decide) hB)).bind
  intro t r1 ⟨_, h1⟩
  apply (safe_readLen hB).bind
  intro p r2 ⟨h16, h2, _⟩
  exact safe_pure ⟨h16, h1.trans h2⟩

theorem safe_peekTL (off : Nat) (hB : 15 ≤ B) :
    Safe B A (peekTL off) r (fun tl r' => tl.lenSize ≤ 16 ∧ Moved 0 [] r r') := by
  apply (safe_peekU8 off (Nat.le_trans (by decide) hB)).bind
  intro t r1 ⟨_, h1⟩
  apply (safe_peekLen _ hB).bind
  intro p r2 ⟨h16, h2, _⟩
  exact safe_pure ⟨h16, h1.after_peek h2⟩

theorem safe_tryPeekTL (hB : 15 ≤ B) : Safe B A tryPeekTL r (fun _ r' => r = r') := by
  intro I hI hr
  have h := safe_peekTL (A := A) 0 hB I hI hr
  unfold Crv.tryPeekTL
  cases hres : peekTL 0 r with
  | ok t r' => exact ⟨hr, rfl⟩
  | err e r' => exact ⟨hr, rfl⟩
  | panic r' => rw [hres] at h; exact h.elim

theorem safe_readValue (c len : Nat) (hc : c ≤ B) (hc63 : c < 2 ^ 63) :
    Safe B A (readValue (some c) len) r (fun _ r' => Moved len [] r r') := by
  apply safe_ite
  · intro _; exact safe_fail .tooLong
  · intro h
    have hl : len ≤ c := Nat.le_of_not_lt h
    rw [narrow64_small (Nat.lt_of_le_of_lt hl hc63)]
    exact (safe_readN _ (Int.natCast_nonneg _) (Int.ofNat_le.mpr (Nat.le_trans hl hc))).mono fun _ _ h => h.2

end

section
variable {A : Query → Prop} {r : Rd}

theorem frame_request {tl : TL} (hl : ¬ tl.len > 81920) :
    narrow64 tl.len + ((tl.lenSize + 1 : Nat) : Int) = ((tl.len + (tl.lenSize + 1) : Nat) : Int) := by
  rw [narrow64_small (Nat.lt_of_le_of_lt (Nat.le_of_not_lt hl) (by decide))]
  exact (Int.natCast_add _ _).symm

theorem safe_readStructFrame :
    Safe allocBound A readStructFrame r (fun f r' => 0 < f.length ∧ f = r.rest.take f.length ∧ Moved f.length [] r r') := by
  apply (safe_peekTL 0 (by decide)).bind
  intro tl r1 ⟨htl, hs⟩
  apply (safe_expectTag _ _).bind
  intro _ _ ⟨_, hr⟩
  subst hr
  show Safe _ _ (if tl.len > 81920 then _ else _) _ _
  apply safe_ite
  · intro _; exact safe_fail .tooLong
  · intro hl
    rw [frame_request hl]
    -- at most 81920 content bytes and 17 header bytes
    have hb : tl.len + (tl.lenSize + 1) ≤ allocBound := Nat.add_le_add (Nat.le_of_not_lt hl) (Nat.succ_le_succ htl)
    apply (safe_readN _ (Int.natCast_nonneg _) (Int.ofNat_le.mpr hb)).mono
    intro f r' ⟨hf, ht⟩
    rw [Int.toNat_natCast] at hf ht
    have hlen : f.length = tl.len + (tl.lenSize + 1) := by rw [hf, List.length_take]; exact Nat.min_eq_left ht.le
    rw [hlen]
    exact ⟨Nat.succ_pos _, hf.trans (congrArg _ hs.rest), hs.after_peek ht⟩

theorem readStructFrame_shrinks {r r' : Rd} {f : Bytes} (h : readStructFrame r = .ok f r') :
    r'.rest.length < r.rest.length :=
  have ⟨hpos, _, ht⟩ := safe_readStructFrame.ok h
  ht.shrinks hpos

/-- The trusted leaf decoder `k` is consulted on the bytes `f` just read: the query is logged, a refusal is the `decode`
error. `readStruct` (`readStruct_eq`) and `readUtcTime` end in this. -/
def decoded (k : QKind) (ok : Bytes → Bool) (f : Bytes) : RdM Bytes := do
  logQuery k f.length
  if ok f then pure f else fail .decode

theorem readStruct_eq (k : QKind) (ok : Bytes → Bool) : readStruct k ok = readStructFrame >>= decoded k ok := rfl

theorem safe_decoded {B : Nat} (k : QKind) (ok : Bytes → Bool) (f : Bytes) (hA : ∀ off, A ⟨k, off, f.length⟩) :
    Safe B A (decoded k ok f) r (fun v r' => v = f ∧ Moved 0 [⟨k, r.pos - f.length, f.length⟩] r r') :=
  (safe_logQuery _ _ hA).bind fun _ _ ht => safe_ite (fun _ => safe_pure ⟨rfl, ht⟩) (fun _ => safe_fail .decode)

theorem safe_readStruct (k : QKind) (ok : Bytes → Bool) (hA : ∀ off len, A ⟨k, off, len⟩) :
    Safe allocBound A (readStruct k ok) r (fun f r' => 0 < f.length ∧ f = r.rest.take f.length ∧
      Moved f.length [⟨k, r.pos, f.length⟩] r r') := by
  apply safe_readStructFrame.bind
  intro f r1 ⟨hpos, hf, ht⟩
  apply (safe_decoded k ok f (hA · _)).mono
  intro v r' ⟨hv, ht'⟩
  rw [hv]
  -- `f.length + 0` and `[] ++ [q]` reduce; the query was logged at `r1.pos - f.length = r.pos`
  have := ht.trans ht'
  rw [ht.pos, Nat.add_sub_cancel] at this
  exact ⟨hpos, hf, this⟩

/-- Tag, length and capped value of a primitive element: the bodies of `readUtcTime`, `parseBitString` and `readBigInt`
elaborate to this bind chain (`tagOk` because the first calls `expectTag tl.tag 23`, the others `expectTag t tl.tag`). -/
theorem safe_primitive (tagOk : UInt8 → RdM Unit) {T : UInt8 → Rd → Unit → Rd → Prop}
    (htag : ∀ t r, Safe allocBound A (tagOk t) r (T t r))
    {k : Bytes → RdM β} {Q : β → Rd → Prop} (hk : ∀ v r, Safe allocBound A (k v) r Q) :
    Safe allocBound A (do
      let tl ← readTL
      tagOk tl.tag
      let v ← readValue (some 81920) tl.len
      k v) r Q := by
  apply (safe_readTL (by decide)).bind
  intro tl _ _
  apply (htag _ _).bind
  intro _ _ _
  apply (safe_readValue 81920 tl.len (by decide) (by decide)).bind
  intro v _ _
  exact hk v _

theorem safe_readUtcTime (O : Oracle) (hA : ∀ off len, A ⟨.utc, off, len⟩) :
    Safe allocBound A (readUtcTime O) r (fun _ _ => True) :=
  safe_primitive (expectTag · 23) (fun _ _ => safe_expectTag _ _) fun v _ =>
    (safe_decoded .utc O.utcOk v (hA · _)).mono fun _ _ _ => trivial

theorem whole_octets {n pad : Nat} (h7 : pad ≤ 7) (h8 : (n * 8 - pad) % 8 = 0) : n * 8 - pad = 8 * n := by omega

theorem safe_parseBitString :
    Safe allocBound A parseBitString r (fun s _ => s.bitLen % 8 = 0 → s.bitLen = 8 * s.bytes.length) := by
  refine safe_primitive (expectTag 3) (fun _ _ => safe_expectTag _ _) fun v _ => ?_
  cases v with
  | nil => exact safe_fail .bitString
  | cons p body =>
    apply safe_ite
    · intro _; exact safe_fail .bitString
    · intro hc
      apply safe_pure
      intro h8
      have h7 : p.toNat ≤ 7 := Nat.le_of_not_lt fun h => hc (Or.inl h)
      exact whole_octets h7 h8

theorem safe_readBigInt : Safe allocBound A readBigInt r (fun _ _ => True) :=
  safe_primitive (expectTag 2) (fun _ _ => safe_expectTag _ _) fun _ _ => safe_pure trivial

theorem safe_parseOctetString : Safe allocBound A parseOctetString r (fun _ _ => True) := by
  apply (safe_readTL (by decide)).bind
  intro tl _ _
  apply (safe_expectTag _ _).bind
  intro _ _ _
  exact (safe_readValue 81920 tl.len (by decide) (by decide)).mono fun _ _ _ => trivial

def entryBody (O : Oracle) : RdM Unit := do
  let f ← readStruct .entry O.entryOk
  emit (.insert f)

theorem entryLoop_eq (O : Oracle) (listEnd : Nat) (r : Rd) :
    entryLoop O listEnd r =
      if r.pos < listEnd then
        match entryBody O r with
        | .ok _ r' => if r'.rest.length < r.rest.length then entryLoop O listEnd r' else .err .stalled r'
        | .err e r' => .err e r'
        | .panic r' => .panic r'
      else .ok () r := by
  rw [entryLoop]; rfl

theorem safe_entryBody (O : Oracle) (hA : ∀ off len, A ⟨.entry, off, len⟩) :
    Safe allocBound A (entryBody O) r (fun _ r' => r'.rest.length < r.rest.length) :=
  (safe_readStruct _ _ hA).bind fun _ _ ⟨hpos, _, ht⟩ =>
    (safe_emit _).mono fun _ _ ht' => (ht.trans ht').shrinks hpos

theorem safe_entryLoop (O : Oracle) (listEnd : Nat) (hA : ∀ off len, A ⟨.entry, off, len⟩) :
    Safe allocBound A (entryLoop O listEnd) r (fun _ _ => True) := by
  intro I hI
  induction hn : r.rest.length using Nat.strongRecOn generalizing r with
  | _ n ih =>
    intro hr
    rw [entryLoop_eq]
    by_cases hpos : r.pos < listEnd
    · rw [if_pos hpos]
      have hb := safe_entryBody O hA I hI hr
      cases hres : entryBody O r with
      | ok a r' =>
        rw [hres] at hb
        simp only [hb.2, ↓reduceIte]
        exact ih _ (hn ▸ hb.2) rfl hb.1
      | err e r' => rw [hres] at hb; exact hb
      | panic r' => rw [hres] at hb; exact hb
    · rw [if_neg hpos]; exact ⟨hr, trivial⟩

/-- For the regenerated `algIdsCompared = true`: the `if` of `readInnerAlg` reduces to the comparing branch. -/
theorem safe_readInnerAlg (O : Oracle) (outerFrame : Bytes) (hA : ∀ off len, A ⟨.alg, off, len⟩) :
    Safe allocBound A (readInnerAlg O outerFrame) r (fun _ r' => outerFrame = r.rest.take outerFrame.length ∧
      Moved outerFrame.length [⟨.alg, r.pos, outerFrame.length⟩] r r') := by
  apply (safe_readStruct _ _ hA).bind
  intro f r1 ⟨_, hf⟩
  apply (safe_check .algMismatch).mono
  intro _ r' ⟨e, e'⟩
  rw [← e', ← e]
  exact hf

theorem safe_lookupHashM {B : Nat} (oid : List Nat) :
    Safe B A (lookupHashM oid) r (fun h r' => lookupHash oid = some h ∧ r = r') := by
  unfold Crv.lookupHashM
  cases lookupHash oid with
  | none => exact safe_fail .alg
  | some h => exact safe_pure ⟨rfl, rfl⟩

theorem safe_readVersion : Safe allocBound A readVersion r (fun _ _ => True) := by
  apply (safe_tryPeekTL (by decide)).bind
  intro vtl _ _
  apply safe_ite
  · intro _
    apply (safe_readTL (by decide)).ignoreErr.bind
    intro _ _ _
    apply (safe_readU8 (by decide)).bind
    intro b _ _
    exact safe_pure trivial
  · intro _; exact safe_pure trivial

theorem safe_readNextUpdate (O : Oracle) (hA : ∀ off len, A ⟨.utc, off, len⟩) :
    Safe allocBound A (readNextUpdate O) r (fun _ _ => True) := by
  apply (safe_tryPeekTL (by decide)).bind
  intro ntl _ _
  apply safe_ite
  · intro _
    apply (safe_readUtcTime O hA).bind
    intro v _ _
    exact safe_pure trivial
  · intro _; exact safe_pure trivial

theorem safe_readEntryList (O : Oracle) (tbsEnd : Nat) (hA : ∀ off len, A ⟨.entry, off, len⟩) :
    Safe allocBound A (readEntryList O tbsEnd) r (fun _ _ => True) := by
  apply (safe_get _).bind
  intro p1 _ _
  apply (safe_tryPeekTL (by decide)).bind
  intro ltl _ _
  apply safe_ite
  · intro _
    apply (safe_readTL (by decide)).bind
    intro l _ _
    apply (safe_expectTag _ _).bind
    intro _ _ _
    apply (safe_endPosition _).bind
    intro listEnd _ _
    exact safe_entryLoop O listEnd hA
  · intro _; exact safe_pure trivial

theorem safe_readCrlNumber (es : List Ext) : Safe allocBound A (readCrlNumber es) r (fun _ _ => True) := by
  unfold Crv.readCrlNumber
  cases findExt oidCrlNumber es with
  | none => exact safe_pure trivial
  | some e =>
    apply (safe_onBytes (A' := anyQuery) _ safe_readBigInt).bind
    intro n _ _
    exact safe_pure trivial

theorem safe_readExtensions (O : Oracle) (tbsEnd version : Nat) (hA : ∀ off len, A ⟨.exts, off, len⟩) :
    Safe allocBound A (readExtensions O tbsEnd version) r (fun _ _ => True) := by
  apply (safe_get _).bind
  intro p2 _ _
  apply (safe_tryPeekTL (by decide)).bind
  intro etl _ _
  apply safe_ite
  · intro _
    apply (safe_readTL (by decide)).ignoreErr.bind
    intro _ _ _
    apply safe_readStructFrame.bind
    intro f _ _
    apply (safe_logQuery _ _ (hA · _)).bind
    intro _ _ _
    cases O.exts f with
    | none => exact safe_fail .decode
    | some es =>
      apply (safe_readCrlNumber es).bind
      intro n _ _
      exact safe_pure trivial
  · intro _; exact safe_pure trivial

theorem safe_checkGate {B : Nat} (e : Option (List Ext)) :
    Safe B A (checkGate e) r (fun _ r' => (∀ es, e = some es → criticalGate es = true) ∧ r = r') := by
  cases e with
  | none => exact safe_pure ⟨fun es h => (by cases h), rfl⟩
  | some es => exact (safe_check .gate).mono fun _ _ ⟨hg, hr⟩ => ⟨fun es' h => (by cases h; exact hg), hr⟩

/-- For the regenerated `sigUnusedBitsRejected = true` and `outerLengthChecked = true`. -/
theorem safe_checkEnvelope {B : Nat} (sig : BitStr) (outerEnd : Nat) :
    Safe B A (checkEnvelope sig outerEnd) r (fun _ r' => sig.bitLen % 8 = 0 ∧ r.pos = outerEnd ∧ r = r') := by
  unfold Crv.checkEnvelope
  apply safe_ite
  · intro _; exact safe_fail .bitString
  · intro hc
    have h8 : sig.bitLen % 8 = 0 := by
      simp only [sigUnusedBitsRejected, Bool.true_and, bne_iff_ne, ne_eq, Decidable.not_not] at hc
      exact hc
    apply (safe_get Rd.pos).bind
    intro p _ ⟨hp, e⟩
    subst hp e
    exact (safe_check .outerLen).mono fun _ _ h => ⟨h8, h⟩

/-- `Discard` is not hashed: only while hashing is off (the first pass) is it a consumption like the others. -/
theorem safe_discard {B : Nat} (k : Int) (hh : r.hashing = false) :
    Safe B A (discard k) r (fun _ r' => Moved k.toNat [] r r') := by
  intro I hI hr
  have hc : ∀ n, n ≤ r.rest.length → I { r with rest := r.rest.drop n, pos := r.pos + n } := by
    intro n hn
    have := hI.consume r n hn hr
    rw [if_neg (ne_true_of_eq_false hh)] at this
    exact this
  fun_cases discard k r
  case case1 => exact ⟨hr, by decide⟩
  case case2 hlen =>
    have := hc _ (Nat.le_refl _)
    rw [List.drop_length] at this
    exact ⟨this, by decide⟩
  case case3 hlen =>
    exact ⟨hc _ (Nat.le_of_not_lt hlen), Nat.le_of_not_lt hlen, rfl, rfl, rfl, (List.append_nil _).symm⟩

theorem safe_prescan (O : Oracle) (hh : r.hashing = false) (hA : ∀ off len, A ⟨.alg, off, len⟩) :
    Safe allocBound A (prescan O) r (fun p r' => ∃ n, p.2 = (r.rest.drop n).take p.2.length ∧
      r'.queries = r.queries ++ [⟨.alg, r.pos + n, p.2.length⟩] ∧ O.algOid p.2 = some p.1) := by
  apply (safe_readTL (by decide)).bind
  intro outer r1 ⟨_, t1⟩
  apply (safe_expectTag _ _).bind
  intro _ _ ⟨_, e⟩
  subst e
  apply (safe_peekTL 0 (by decide)).bind
  intro tbs r3 ⟨_, t3⟩
  apply (safe_discard _ (by rw [t3.hashing, t1.hashing, hh])).bind
  intro _ r4 t4
  obtain ⟨n, t4⟩ : ∃ n, Moved n [] r r4 := ⟨_, t1.trans (t3.after_peek t4)⟩
  apply safe_readStructFrame.bind
  intro f r5 ⟨_, hf, t5⟩
  apply (safe_logQuery _ _ (hA · _)).bind
  intro _ r6 t6
  cases ho : O.algOid f with
  | none => exact safe_fail .decode
  | some oid =>
    rw [t5.pos, Nat.add_sub_cancel, t4.pos] at t6
    exact safe_pure ⟨n, by rw [← t4.rest]; exact hf, ((t4.trans t5).trans t6).queries, ho⟩

end

theorem readCRL_ok_inv {O : Oracle} {file : Bytes} {res : ReadResult} (hok : (readCRL O file).outcome = .ok res) :
    ∃ oid f r1 r2, prescan O { rest := file } = .ok (oid, f) r1 ∧ readBody O oid f { rest := file } = .ok res r2 ∧
      (readCRL O file).queries = r1.queries ++ r2.queries ∧ (readCRL O file).finalPos = r2.pos := by
  revert hok
  fun_cases readCRL O file
  case case3 oid f r1 hp res' r2 hb => rintro ⟨⟩; exact ⟨oid, f, r1, r2, hp, hb, rfl, rfl⟩
  all_goals nofun

/-! `Holds` (the allocation bound alone) and its rules. It is `SafeFor` for the single invariant `AllocOK B` (`holds_iff`), and
every `safe_` lemma gives one (`SafeFor.holds`); the walk above and the property files do not go through them. -/

def Holds (B : Nat) (m : RdM α) (P : α → Prop) : Prop :=
  ∀ r, AllocOK B r →
    match m r with
    | .ok a r' => AllocOK B r' ∧ P a
    | .err e r' => AllocOK B r' ∧ e ≠ .stalled
    | .panic _ => False

theorem holds_pure (a : α) (h : P a) : Holds B (pure a : RdM α) P := fun _ hr => ⟨hr, h⟩

theorem holds_fail (e : Err) (he : e ≠ .stalled) : Holds B (fail e : RdM α) P := fun _ hr => ⟨hr, he⟩

theorem holds_ite {c : Prop} [Decidable c] {m₁ m₂ : RdM α} (h₁ : c → Holds B m₁ P) (h₂ : ¬c → Holds B m₂ P) :
    Holds B (if c then m₁ else m₂) P := by
  split
  · exact h₁ ‹_›
  · exact h₂ ‹_›

theorem holds_stateOnly {f : Rd → Rd} {g : Rd → α} (hf : ∀ r, (f r).allocs = r.allocs) (hg : ∀ r, P (g r)) :
    Holds B (fun r => Res.ok (g r) (f r)) P := by
  intro r hr
  refine ⟨?_, hg r⟩
  intro a ha
  rw [hf] at ha
  exact hr a ha

theorem holds_iff {m : RdM α} : Holds B m P ↔ ∀ r, SafeFor (· = AllocOK B) m r (fun a _ => P a) :=
  ⟨fun h r _ hI => hI ▸ h r, fun h r => h r _ rfl⟩

theorem holds_bind {m : RdM α} {f : α → RdM β} {P : α → Prop} {Q : β → Prop}
    (hm : Holds B m P) (hf : ∀ a, P a → Holds B (f a) Q) : Holds B (m >>= f) Q :=
  holds_iff.mpr fun r => (holds_iff.mp hm r).bind fun a r' pa => holds_iff.mp (hf a pa) r'

theorem SafeFor.holds {m : RdM α} {Q : Rd → α → Rd → Prop} (h : ∀ {r}, Safe B anyQuery m r (Q r))
    (hP : ∀ r a r', Q r a r' → P a) : Holds B m P :=
  holds_iff.mpr fun r _ hI => (h.mono (hP r)) _ (hI ▸ stable_allocOK B anyQuery)

theorem holds_parseBitString : Holds allocBound parseBitString (fun _ => True) :=
  SafeFor.holds safe_parseBitString fun _ _ _ _ => trivial

theorem holds_checkGate (e : Option (List Ext)) : Holds B (checkGate e) (fun _ => True) :=
  SafeFor.holds (safe_checkGate e) fun _ _ _ _ => trivial

end Crv
