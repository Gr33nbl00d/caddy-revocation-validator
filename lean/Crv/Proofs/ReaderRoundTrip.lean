import Crv.Proofs.ReaderDet
/-!
The round trip `readCRL O (enc d)` for every document of the supported profile (C06, used by C01/C04/C17): both passes
are walked through the file once, segment by segment.
-/
namespace Crv
open Crv.Generated

/-- `m` succeeds from `c` with value `a`, in a state satisfying `Q` (what the caller wants to know about the end). -/
def Ends (m : RdM α) (c : Core) (a : α) (Q : Core → Prop) : Prop := ∃ c', Det m c a c' ∧ Q c'

theorem Ends.pure {a : α} {c : Core} {Q : Core → Prop} (hq : Q c) : Ends (pure a : RdM α) c a Q := ⟨c, det_pure a c, hq⟩

theorem Ends.bind {m : RdM α} {f : α → RdM β} {c c₁ : Core} {a : α} {v : β} {Q : Core → Prop}
    (h : Det m c a c₁) (hk : Ends (f a) c₁ v Q) : Ends (m >>= f) c v Q :=
  let ⟨c', h', hq⟩ := hk; ⟨c', det_bind h h', hq⟩

section
variable {m : RdM α} {f : α → RdM β} {a : α} {c₀ : Core} {P T s : Bytes} {E : List Event} {v : β} {Q : Core → Prop}

theorem Reads.next (h : Reads m s a) (hk : Ends (f a) (c₀.cur (P ++ s) T E) v Q) :
    Ends (m >>= f) (c₀.cur P (s ++ T) E) v Q :=
  Ends.bind (h c₀ P T E) hk

end

theorem Ends.emit {f : Unit → RdM β} {e : Event} {c₀ : Core} {P T : Bytes} {E : List Event} {v : β} {Q : Core → Prop}
    (hk : Ends (f ()) (c₀.cur P T (E ++ [e])) v Q) : Ends (emit e >>= f) (c₀.cur P T E) v Q :=
  Ends.bind (det_emit _ e) hk

/-- Switching the hash on or off starts a new stretch of the walk. `rest` and `events` of a base state are never looked at
(`cur` overrides both with `T` and `E`), hence the `[]`s. -/
theorem det_hashOn (c₀ : Core) (P T : Bytes) (E : List Event) :
    Det (setHashing true) (c₀.cur P T E) () (Core.cur ⟨[], c₀.pos + P.length, true, [], c₀.pos + P.length, []⟩ [] T E) := by
  exact det_setHashing (c₀.cur P T E) true

theorem det_hashOff (c₀ : Core) (P T : Bytes) (E : List Event) :
    Det (setHashing false) (c₀.cur P T E) ()
      (Core.cur ⟨[], c₀.pos + P.length, false, (c₀.cur P T E).hashed, c₀.hashFrom, []⟩ [] T E) := by
  exact det_setHashing (c₀.cur P T E) false

/-- What follows tbsCertList inside the outer SEQUENCE: signatureAlgorithm and signatureValue. -/
def rest2 (d : Doc) : Bytes := seqOf d.outerAlg ++ encSig d

def bodyOf (d : Doc) : Bytes := encTbs d ++ rest2 d

theorem enc_eq (d : Doc) : enc d = seqOf (bodyOf d) := rfl

def resultOf (d : Doc) (oid : List Nat) (h : HashAlg) (es : Option (List Ext)) : ReadResult :=
  { algOid := oid, hashAlg := h, issuer := seqOf d.issuer, exts := es, sig := ⟨d.sig, d.sig.length * 8⟩,
    hashRegion := encTbs d, hashFrom := 1 + (encLen (bodyOf d).length).length }

/-- Length facts that follow from `(enc d).length < 2^32`: every part is a part of the whole. -/
structure Sizes (d : Doc) : Prop where
  body : (bodyOf d).length < 2 ^ 32
  tbs : (tbsContent d).length < 2 ^ 32
  tbsFrame : (encTbs d).length < 2 ^ 32
  list : (encList d.entries).length < 2 ^ 32

theorem sizes_of (d : Doc) (h : (enc d).length < 2 ^ 32) : Sizes d := by
  have h1 : (bodyOf d).length ≤ (enc d).length := length_le_append_left (0x30 :: encLen _) _
  have h2 : (encTbs d).length ≤ (bodyOf d).length := by
    rw [bodyOf, List.length_append]; exact Nat.le_add_right _ _
  have h3 : (tbsContent d).length ≤ (encTbs d).length := length_le_append_left (0x30 :: encLen _) _
  have h4 : (encList d.entries ++ encExts d.exts).length ≤ (tbsContent d).length := by
    unfold tbsContent
    iterate 5 refine Nat.le_trans ?_ (length_le_append_left _ _)
    exact Nat.le_refl _
  have hb := Nat.lt_of_le_of_lt h1 h
  have hf := Nat.lt_of_le_of_lt h2 hb
  have ht := Nat.lt_of_le_of_lt h3 hf
  have hle := Nat.lt_of_le_of_lt h4 ht
  rw [List.length_append] at hle
  exact ⟨hb, ht, hf, Nat.lt_of_le_of_lt (Nat.le_add_right _ _) hle⟩

theorem ends_prescan (O : Oracle) (d : Doc) (oid : List Nat) (h : HashAlg) (es : Option (List Ext)) (num : Option Nat)
    (wf : WF O d oid h es num) :
    Ends (prescan O) ⟨enc d, 0, false, [], 0, []⟩ (oid, seqOf d.outerAlg) (fun _ => True) := by
  have sz := sizes_of d wf.total
  -- the final `[]` is the `T` of the last segment (`Reads` speaks of `seg ++ T`)
  have hfile : enc d = (0x30 :: encLen (bodyOf d).length) ++ (encTbs d ++ (seqOf d.outerAlg ++ (encSig d ++ []))) := by
    simp only [enc_eq, bodyOf, rest2, seqOf, tlv, List.append_assoc, List.cons_append, List.append_nil]
  unfold Crv.prescan
  rw [show (⟨enc d, 0, false, [], 0, []⟩ : Core) = Core.cur ⟨[], 0, false, [], 0, []⟩ [] (enc d) [] from rfl, hfile]
  refine (reads_readTL 0x30 _ sz.body).next ?_
  refine Ends.bind (det_expectTag _ _) ?_
  refine Ends.bind (det_peekTL _ 0x30 (tbsContent d) _ sz.tbs rfl) ?_
  rw [show (⟨0x30, (tbsContent d).length, (encLen (tbsContent d).length).length⟩ : TL).tlvLen = (encTbs d).length by
    simp only [TL.tlvLen, encTbs, seqOf, tlv_length], narrow64_small (Nat.lt_trans sz.tbsFrame (by decide))]
  refine Ends.bind (det_discard _ _ _ _ _ rfl) ?_
  refine (reads_readStructFrame d.outerAlg wf.outerLen).next ?_
  refine Ends.bind (det_logQuery _ _ _) ?_
  simp only [wf.algOk]
  exact Ends.pure trivial

theorem wf_gate {O : Oracle} {d : Doc} {oid : List Nat} {h : HashAlg} {es : Option (List Ext)} {num : Option Nat}
    (wf : WF O d oid h es num) : ∀ l, es = some l → criticalGate l = true := by
  intro l hl
  have := wf.extsOk
  cases hde : d.exts with
  | none => rw [hde] at this; rw [this.1] at hl; cases hl
  | some x =>
    rw [hde] at this
    obtain ⟨l', _, h2, h3, _⟩ := this
    rw [h2] at hl; cases hl; exact h3

theorem ends_readBody (O : Oracle) (d : Doc) (oid : List Nat) (h : HashAlg) (es : Option (List Ext)) (num : Option Nat)
    (wf : WF O d oid h es num) :
    Ends (readBody O oid (seqOf d.outerAlg)) ⟨enc d, 0, false, [], 0, []⟩ (resultOf d oid h es)
      (fun c' => c'.events = eventsOf d num ∧ c'.pos = (enc d).length) := by
  have sz := sizes_of d wf.total
  -- what follows nextUpdate begins with SEQUENCE or `[0]`
  have hT : ∀ tl : TL, (encList d.entries ++ (encExts d.exts ++ (seqOf d.outerAlg ++ (encSig d ++ [])))).head? =
      some tl.tag → (tl.tag == 23) = false := by
    cases d.entries <;> cases d.exts <;> exact fun tl h => Option.some.inj h ▸ rfl
  have hver : ¬ verOf d.version > maxVersion := Nat.not_lt.mpr wf.versionOk
  -- the file, cut where the reader cuts it (`++ []` as in `ends_prescan`)
  have hfile : enc d = (0x30 :: encLen (bodyOf d).length) ++ ((0x30 :: encLen (tbsContent d).length) ++
      (encVersion d.version ++ (seqOf d.innerAlg ++ (seqOf d.issuer ++ (tlv 23 d.thisUpdate ++
        (encOptTime d.nextUpdate ++ (encList d.entries ++ (encExts d.exts ++ (seqOf d.outerAlg ++ (encSig d ++ [])))))))))) := by
    simp only [enc_eq, bodyOf, rest2, encTbs, seqOf, tlv, tbsContent, List.append_assoc, List.cons_append, List.append_nil]
  -- `N` keeps `(enc d).length` in the goal out of reach of `rw [hfile]`; `tbsEnd` names the declared end of tbsCertList.
  -- Each is turned back into a sum of segment lengths (`← hN`, `← htbs`) only in the side goals that compare positions,
  -- and there the two sides are lengths of the same list, re-associated by `simp` (`omega` over a dozen segment lengths
  -- is slow to check).
  obtain ⟨N, hN⟩ : ∃ N, (enc d).length = N := ⟨_, rfl⟩
  obtain ⟨tbsEnd, htbs⟩ : ∃ e, (0x30 :: encLen (bodyOf d).length).length +
      ((0x30 :: encLen (tbsContent d).length).length + (tbsContent d).length) = e := ⟨_, rfl⟩
  have hle : tbsEnd + ((seqOf d.outerAlg).length + (encSig d).length) = N := by
    rw [← htbs, ← hN, hfile]
    simp only [tbsContent, List.length_append, List.length_nil, Nat.add_zero, Nat.add_assoc]
  have hN63 : N < 2 ^ 63 := Nat.lt_trans (hN ▸ wf.total) (by decide)
  have hT63 : tbsEnd < 2 ^ 63 := Nat.lt_of_le_of_lt (Nat.le.intro hle) hN63
  unfold Crv.readBody
  rw [hN, show (⟨enc d, 0, false, [], 0, []⟩ : Core) = Core.cur ⟨[], 0, false, [], 0, []⟩ [] (enc d) [] from rfl, hfile]
  refine (reads_readTL 0x30 _ sz.body).next ?_
  refine Ends.bind (det_expectTag _ _) ?_
  simp only [outerLengthChecked, ↓reduceIte]
  refine Ends.bind (det_endPosition (e := N) ?_ hN63) ?_
  · rw [← hN, enc_eq]
    simp only [cur_pos, seqOf, tlv, List.nil_append, List.length_cons, List.length_append, Nat.zero_add]
    omega
  refine Ends.bind (det_lookupHashM oid h wf.hashOk _) ?_
  refine Ends.bind (det_hashOn _ _ _ _) ?_
  refine (reads_readTL 0x30 _ sz.tbs).next ?_
  refine Ends.bind (det_expectTag _ _) ?_
  refine Ends.bind (det_endPosition (e := tbsEnd) ?_ hT63) ?_
  · rw [← htbs]; simp only [cur_pos, List.nil_append, Nat.zero_add, Nat.add_assoc]
  refine Ends.bind (det_readVersion d.version _ _ _ _ fun tl h => Option.some.inj h ▸ rfl) ?_
  simp only [hver, ↓reduceIte]
  refine (reads_readInnerAlg O _ d.innerAlg wf.innerLen (by rw [wf.algSame, wf.algOk]; rfl) (by rw [wf.algSame])).next ?_
  refine (reads_readStruct .rdn O.rdnOk d.issuer wf.issuerLen wf.issuerOk).next ?_
  refine (reads_readUtcTime O d.thisUpdate wf.thisLen wf.thisOk).next ?_
  refine Ends.bind (det_readNextUpdate O d.nextUpdate _ _ _ _ wf.nextLen wf.nextOk hT) ?_
  refine Ends.emit ?_
  refine Ends.bind (det_readEntryList O d.entries d.exts _ _ _ _
    (fun l hl e he => ⟨wf.entryLen l hl e he, wf.entriesOk l hl e he⟩) sz.list hT63 ?_) ?_
  · rw [← htbs]; simp only [tbsContent, List.nil_append, List.length_append, Nat.zero_add, Nat.add_assoc]
  refine Ends.bind (det_readExtensions O d.exts _ _ _ _ (verOf d.version) es num wf.extsOk wf.extsLen wf.extsV2 ?_) ?_
  · rw [← htbs]; simp only [tbsContent, List.nil_append, List.length_append, Nat.zero_add, Nat.add_assoc]
  refine Ends.emit ?_
  refine Ends.bind (det_checkGate es (wf_gate wf) _) ?_
  -- the hash input at this point is the DER tbsCertList
  refine Ends.bind (det_getHashed (v := encTbs d) ?_) ?_
  · simp only [Core.cur, Core.after, ↓reduceIte, encTbs, seqOf, tlv, tbsContent, List.nil_append, List.append_assoc,
      List.cons_append]
  refine Ends.bind (det_getHashFrom (v := 1 + (encLen (bodyOf d).length).length)
    ((Nat.zero_add _).trans (Nat.add_comm _ _))) ?_
  refine Ends.bind (det_hashOff _ _ _ _) ?_
  refine (reads_readStructFrame d.outerAlg wf.outerLen).ignoreErr.next ?_
  refine (reads_parseBitString d.sig wf.sigLen).next ?_
  refine Ends.bind (det_checkEnvelope _ _ _ (Nat.mul_mod_left _ _) ?pos) (Ends.pure ⟨rfl, ?pos⟩)
  rw [← hle, ← htbs]
  simp only [cur_pos, encSig, tbsContent, List.nil_append, List.length_append, Nat.zero_add, Nat.add_assoc]

end Crv
