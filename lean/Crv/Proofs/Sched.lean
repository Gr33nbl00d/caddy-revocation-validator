import Crv.Sched
/-!
Lemmas about the refresh-scheduling model (`Crv.Sched`), for any `Model` whose `updateCRLs` behaves like
"run unless (not forced and recently finished); stamp exactly when it ran" and whose stamp is per instance;
and about Provision: what its two per-location statements do for any `RepoFacts`, and that `AddCRL; UpdateCRL`
puts a location in force when `UpdateCRL` marks what it fetched and returns its error.
-/
namespace Crv.Sched

/-- The behaviour of `updateCRLs` the theorems need (proved for the generated statement list by evaluation). -/
def TickSpec (M : Model) : Prop :=
  ∀ f r, runTick M.prog f r = { ran := f || !r, stamped := f || !r, unlocked := true }

/-- the decision of one call -/
def runs (M : Model) (I : Nat → Nat) (last : Nat → Nat) (e : Ev) : Bool :=
  e.forced || !M.recent (last (M.slot e.inst)) e.time (I e.inst)

def runOf (e : Ev) : Run := ⟨e.inst, e.time, e.time + e.dur⟩

theorem stepEv_eq {M : Model} (hs : TickSpec M) (I : Nat → Nat) (last : Nat → Nat) (e : Ev) :
    stepEv M I last e =
      if runs M I last e then (upd last (M.slot e.inst) (e.time + e.dur), some (runOf e)) else (last, none) := by
  unfold stepEv runs
  rw [hs]
  cases e.forced || !M.recent (last (M.slot e.inst)) e.time (I e.inst) <;> rfl

theorem exec_cons {M : Model} (hs : TickSpec M) (I : Nat → Nat) (last : Nat → Nat) (e : Ev) (es : List Ev) :
    exec M I last (e :: es) =
      if runs M I last e then runOf e :: exec M I (upd last (M.slot e.inst) (e.time + e.dur)) es
      else exec M I last es := by
  rw [exec, stepEv_eq hs]; cases runs M I last e <;> rfl

theorem finalLast_cons {M : Model} (hs : TickSpec M) (I : Nat → Nat) (last : Nat → Nat) (e : Ev) (es : List Ev) :
    finalLast M I last (e :: es) =
      finalLast M I (if runs M I last e then upd last (M.slot e.inst) (e.time + e.dur) else last) es := by
  rw [finalLast, stepEv_eq hs]; cases runs M I last e <;> rfl

theorem exec_append (M : Model) (I : Nat → Nat) : ∀ (pre post : List Ev) (last : Nat → Nat),
    exec M I last (pre ++ post) = exec M I last pre ++ exec M I (finalLast M I last pre) post
  | [], _, _ => rfl
  | e :: pre, post, last => by
    simp only [List.cons_append, exec, finalLast]
    cases h : stepEv M I last e with
    | mk l' o =>
      cases o with
      | none => simp only []; exact exec_append M I pre post l'
      | some r => simp only [List.cons_append]; rw [exec_append M I pre post l']

theorem Model.slot_eq {M : Model} (hg : M.global = false) (i : Nat) : M.slot i = i := by
  rw [Model.slot, hg]; rfl

theorem upd_slot {M : Model} (hg : M.global = false) (last : Nat → Nat) (e : Ev) (v i : Nat) :
    upd last (M.slot e.inst) v i = if i = e.inst then v else last i := by
  rw [M.slot_eq hg]; rfl

theorem stamp_origin {M : Model} (hs : TickSpec M) (hg : M.global = false) (I : Nat → Nat) (i : Nat) :
    ∀ (evs : List Ev) (last : Nat → Nat),
      finalLast M I last evs i = last i ∨
        ∃ e ∈ evs, e.inst = i ∧ runOf e ∈ exec M I last evs ∧ finalLast M I last evs i = e.time + e.dur
  | [], _ => Or.inl rfl
  | e :: es, last => by
    rw [exec_cons hs, finalLast_cons hs]
    split
    · rcases stamp_origin hs hg I i es (upd last (M.slot e.inst) (e.time + e.dur)) with h | ⟨e', he', hi, hr, hf⟩
      · rw [h, upd_slot hg]
        split
        · next hei => exact .inr ⟨e, List.mem_cons_self .., hei.symm, List.mem_cons_self .., rfl⟩
        · exact .inl rfl
      · exact .inr ⟨e', List.mem_cons_of_mem _ he', hi, List.mem_cons_of_mem _ hr, hf⟩
    · rcases stamp_origin hs hg I i es last with h | ⟨e', he', hi, hr, hf⟩
      · exact .inl h
      · exact .inr ⟨e', List.mem_cons_of_mem _ he', hi, hr, hf⟩

/-- **Non-interference.** With a per-instance stamp the runs of instance `i` are determined by `i`'s own
events (other instances only influence *when* `i`'s calls get the mutex, which is part of `i`'s events). -/
theorem noninterference {M : Model} (hs : TickSpec M) (hg : M.global = false) (I : Nat → Nat) (i : Nat) :
    ∀ (evs : List Ev) (last last' : Nat → Nat), last i = last' i →
      (exec M I last evs).filter (·.inst == i) = exec M I last' (evs.filter (·.inst == i))
  | [], _, _, _ => rfl
  | e :: es, last, last', hl => by
    rw [exec_cons hs, List.filter_cons]
    by_cases hei : e.inst = i
    · -- an event of `i`: decided alike on both sides, stamped alike
      have hsame : runs M I last' e = runs M I last e := by
        unfold runs; rw [M.slot_eq hg, hei, hl]
      rw [if_pos (beq_iff_eq.mpr hei), exec_cons hs, hsame]
      split
      · rw [List.filter_cons, if_pos (show ((runOf e).inst == i) = true from beq_iff_eq.mpr hei)]
        exact congrArg _ (noninterference hs hg I i es _ _ (by rw [upd_slot hg, upd_slot hg, hl]))
      · exact noninterference hs hg I i es _ _ hl
    · rw [if_neg (mt beq_iff_eq.mp hei)]
      split
      · rw [List.filter_cons, if_neg (show ¬ ((runOf e).inst == i) = true from mt beq_iff_eq.mp hei)]
        exact noninterference hs hg I i es _ _ (by rw [upd_slot hg, if_neg (Ne.symm hei)]; exact hl)
      · exact noninterference hs hg I i es _ _ hl

/-- The heart of `bounded_refresh`: whenever a tick of instance `i` decides at `e.time`, a run of `i` has
started in `(e.time − I/k − D, e.time]` — either this tick runs, or it is skipped because one of `i`'s own
runs finished less than `I/k` ago, and that run took at most `D`. `t` is any instant below the window; `hser` says
`i`'s latest stamp is not in the future of this call (C15's `Serial`). -/
theorem tick_has_recent_run {M : Model} (hs : TickSpec M) (hg : M.global = false)
    (k : Nat) (hrec : ∀ l n iv, M.recent l n iv = (l != 0 && decide (n - l < iv / k)))
    (I : Nat → Nat) (i D : Nat) (pre post : List Ev) (e : Ev) (last0 : Nat → Nat)
    (h0 : last0 i = 0) (hei : e.inst = i)
    (hD : ∀ e' ∈ pre ++ e :: post, e'.dur ≤ D)
    (hser : finalLast M I last0 pre i ≤ e.time) (t : Nat) (ht : t + I i / k + D < e.time) :
    ∃ r ∈ exec M I last0 (pre ++ e :: post), r.inst = i ∧ t < r.start ∧ r.start ≤ e.time ∧ r.finish ≤ e.time + D := by
  rw [exec_append, exec_cons hs]
  cases hc : runs M I (finalLast M I last0 pre) e with
  | true =>
    have hd := hD e (List.mem_append_right _ (List.mem_cons_self ..))
    exact ⟨runOf e, List.mem_append_right _ (List.mem_cons_self ..), hei,
      Nat.lt_of_le_of_lt (Nat.le_trans (Nat.le_add_right ..) (Nat.le_add_right ..)) ht,
      Nat.le_refl _, Nat.add_le_add_left hd _⟩
  | false =>
    simp only [runs, hei, M.slot_eq hg, hrec, Bool.or_eq_false_iff, Bool.not_eq_false', Bool.and_eq_true, bne_iff_ne, ne_eq,
      decide_eq_true_eq] at hc
    obtain ⟨-, hne, hlt⟩ := hc
    rcases stamp_origin hs hg I i pre last0 with h | ⟨e', he', hi', hr, hf⟩
    · rw [h0] at h; exact absurd h hne
    · have hd := hD e' (List.mem_append_left _ he')
      rw [hf] at hlt hser
      exact ⟨runOf e', List.mem_append_left _ hr, hi', by show t < e'.time; omega,
        Nat.le_trans (Nat.le_add_right ..) hser, Nat.le_trans hser (Nat.le_add_right ..)⟩

theorem exists_tick (φ I x : Nat) (hI : 0 < I) (hx : φ ≤ x) : ∃ j, x < φ + j * I ∧ φ + j * I ≤ x + I := by
  refine ⟨(x - φ) / I + 1, ?_, ?_⟩
  · have := Nat.lt_div_mul_add (a := x - φ) hI
    rw [Nat.add_mul, Nat.one_mul]; omega
  · have := Nat.div_mul_le_self (x - φ) I
    rw [Nat.add_mul, Nat.one_mul]; omega

theorem attempted_all (ok : Nat → Bool) : ∀ locs, attempted true ok locs = locs
  | [] => rfl
  | l :: ls => by simp [attempted, attempted_all ok ls]

theorem inForce_succ_ok (pub : Nat → Nat) (ok : Nat → Bool) (v0 k : Nat)
    (hok : ok k = true) : inForce pub ok v0 (k + 1) = pub k := by
  simp [inForce, hok]

theorem inForce_all_fail (pub : Nat → Nat) (ok : Nat → Bool) (v0 : Nat) :
    ∀ k, (∀ j, j < k → ok j = false) → inForce pub ok v0 k = v0
  | 0, _ => rfl
  | k + 1, h => by
    simp only [inForce, h k (Nat.lt_succ_self k), Bool.false_eq_true, if_false]
    exact inForce_all_fail pub ok v0 k (fun j hj => h j (Nat.lt_succ_of_lt hj))

/-! ### Provision -/

theorem PState.inForce_put (s : PState) (l l' : Nat) (e : Entry) :
    (s.put l e).inForce l' = if l' = l then e.loaded else s.inForce l' := by
  by_cases h : l' = l <;> simp [PState.inForce, PState.find, PState.put, h]

theorem PState.put_mono {s : PState} {l : Nat} {e : Entry} (h : s.inForce l = true → e.loaded = true) {l' : Nat}
    (hl : s.inForce l' = true) : (s.put l e).inForce l' = true := by
  rw [PState.inForce_put]; split
  · next he => exact h (he ▸ hl)
  · exact hl

section
variable {F : RepoFacts} {active : Bool} {fetchOk : Nat → Bool} {l : Nat} {s s' : PState}

theorem runLocStmt_addCRL (h : runLocStmt F active fetchOk l s .addCRL = some s') :
    ∃ e, s' = s.put l e ∧ (s.inForce l = true → e.loaded = true) := by
  rw [PState.inForce]
  cases hf : s.find l <;> simp only [runLocStmt, hf] at h ⊢ <;> split at h
  · split at h <;> cases h; exact ⟨_, rfl, fun h => nomatch h⟩
  · cases h; exact ⟨_, rfl, fun h => nomatch h⟩
  · split at h <;> cases h; exact ⟨_, rfl, fun _ => rfl⟩
  · cases h; exact ⟨_, rfl, id⟩

theorem runLocStmt_updateCRL (h : runLocStmt F active fetchOk l s .updateCRL = some s') :
    s' = s ∧ (s.find l = none ∨ F.updateReturnsError = false) ∨
      ∃ e, s.find l = some e ∧ fetchOk l = true ∧
        s' = s.put l { e with loaded := e.loaded || F.updateEntrySetsLoaded } := by
  simp only [runLocStmt] at h
  split at h
  · cases h; exact .inl ⟨rfl, .inl ‹_›⟩
  · next e he =>
    split at h
    · next hc => cases h; exact .inr ⟨e, he, (Bool.and_eq_true_iff.mp hc).2, rfl⟩
    · split at h <;> cases h; exact .inl ⟨rfl, .inr (Bool.not_eq_true _ ▸ ‹_›)⟩

theorem runLocStmt_mono {st : LocStmt} (h : runLocStmt F active fetchOk l s st = some s') {l' : Nat}
    (hl' : s.inForce l' = true) : s'.inForce l' = true := by
  cases st with
  | addCRL =>
    obtain ⟨e, rfl, he⟩ := runLocStmt_addCRL h
    exact PState.put_mono he hl'
  | updateCRL =>
    rcases runLocStmt_updateCRL h with ⟨rfl, -⟩ | ⟨e, he, -, rfl⟩
    · exact hl'
    · exact PState.put_mono (fun hl => by rw [PState.inForce, he] at hl; exact Bool.or_eq_true_iff.mpr (.inl hl)) hl'

variable (hmarks : F.updateEntrySetsLoaded = true) (hreturns : F.updateReturnsError = true)
include hmarks hreturns

theorem loc_in_force (h : runLoc F active fetchOk [.addCRL, .updateCRL] l s = some s') :
    (s'.inForce l = true ∧ fetchOk l = true) ∧ ∀ l', s.inForce l' = true → s'.inForce l' = true := by
  obtain ⟨s1, ha, hu⟩ := Option.bind_eq_some_iff.mp (show (runLocStmt F active fetchOk l s .addCRL).bind _ = _ from h)
  refine ⟨?_, fun l' hl' => runLocStmt_mono hu (runLocStmt_mono ha hl')⟩
  obtain ⟨e, rfl, -⟩ := runLocStmt_addCRL ha
  rcases runLocStmt_updateCRL hu with ⟨-, hn | hf⟩ | ⟨e', -, hok, rfl⟩
  · exact absurd hn (by simp [PState.find, PState.put])
  · rw [hreturns] at hf; cases hf
  · exact ⟨by rw [PState.inForce_put, if_pos rfl, hmarks, Bool.or_true], hok⟩

theorem locs_in_force : ∀ (ls : List Nat) (s s' : PState),
    runLocs F active fetchOk [.addCRL, .updateCRL] ls s = some s' →
      (∀ l ∈ ls, s'.inForce l = true ∧ fetchOk l = true) ∧ ∀ l', s.inForce l' = true → s'.inForce l' = true
  | [], s, s', h => by cases h; exact ⟨(fun _ h => nomatch h), fun _ => id⟩
  | l :: ls, s, s', h => by
    simp only [runLocs] at h
    split at h
    · next s1 h1' =>
      obtain ⟨a1, a2⟩ := loc_in_force hmarks hreturns h1'
      obtain ⟨b1, b2⟩ := locs_in_force ls s1 s' h
      refine ⟨fun x hx => ?_, fun l' hl' => b2 l' (a2 l' hl')⟩
      rcases List.mem_cons.mp hx with rfl | hx
      · exact ⟨b2 _ a1.1, a1.2⟩
      · exact b1 x hx
    · cases h

end

end Crv.Sched
