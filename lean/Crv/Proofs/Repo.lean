import Crv.Repo
/-!
Histories over the repository model, its invariant, and the lemmas both rest on.

`Op`, `step`, `run` (what the "all histories" theorems of C01/C10/C11/C16 quantify over) and `inForceB` (which makes `inForce`
decidable for the examples) are defined here, first; they are not in `Crv/Repo.lean`, and the driver has its own dispatch.

The invariant `Inv` over all histories (histories may restart the process with another signature mode):
every store that holds a document holds one that was accepted under the policy configured at its intake;
every stored signer certificate verified a list of that location; under `verify` whatever is loaded carries
a signer certificate; and a store with a signer certificate holds a verified list (the signature-certificate
retry of `AddCRL` only touches loaded entries, regenerated fact `retryOnlyWhenLoaded`).

`Ext s s'`, what a lock-protected section does, or several in a row (`Ext.trans`): configuration kept, ghost log extended by
records that carry the configured mode, invariant kept. The intake operations (`loadCRL`, `updateCrlEntry`, `addCRL` and what
is built from them) are compositions of `write`s (`ext_write`); `close`, `serve`, `restart`, `markUnsupported` leave
configuration and log alone (`Ext.of_same`); `reconfigure` is the one step that is not an `Ext` (`step_log_inv`).
The one-liners `…_cfg`, `fetch_step`, `fetch_run`, `disk_run`, `sigMode_run` are stated for their own sake; the proofs use
`Ext.cfg` and `cfg_run`.

A proof about one of the model's functions goes along the branches of its definition, by the case principle Lean derives
from it (`fun_cases loadCRL s loc e cands`: `case2` is the second branch as written, with its conditions as hypotheses and
the call replaced by that branch's value). Two functions have a case lemma of their own on top: `isRevoked` (`isRevoked_cases`,
the alternative the property files split on) and `addCRL`, whose branches share a head of two tuple bindings (`addCRL_cases`).
-/
namespace Crv.Repo
open Crv Crv.Generated

inductive Op
  | serve (loc : Loc) (sv : Served)
  | handshake (c : Cert) (cands : List Signer)
  | tick (order : List Loc)              -- `UpdateCRLs` over the identifiers in some enumeration order
  | provision (loc : Loc) (trusted : List Signer)
  | restart
  | reconfigure (m : SigMode)            -- restart with another `signature_validation_mode` in the configuration
  | close
  | markUnsupported (loc : Loc)

def Op.isProvision : Op → Bool
  | .provision _ _ => true
  | _ => false

def step (s : State) : Op → State
  | .serve loc sv => serve s loc sv
  | .handshake c cands => (handshake s c cands).1
  | .tick order => updateAll s order
  | .provision loc trusted => (provisionOne s loc trusted).1
  | .restart => restart s
  | .reconfigure m => reconfigure s m
  | .close => close s
  | .markUnsupported loc => { s with unsupported := loc :: s.unsupported }

def run (cfg : Cfg) (ops : List Op) : State := ops.foldl step { cfg := cfg }

theorem run_append (cfg : Cfg) (pre suf : List Op) : run cfg (pre ++ suf) = suf.foldl step (run cfg pre) := by
  unfold run; rw [List.foldl_append]

def modeAfter (m : SigMode) (ops : List Op) : SigMode :=
  ops.foldl (fun m op => match op with | .reconfigure m' => m' | _ => m) m

/-- `inForce` as a computation (for `decide` on concrete histories). -/
def inForceB (s : State) (loc : Loc) (d : DocA) : Bool :=
  s.entries.any (fun p => p.1 == loc && p.2.loaded && !p.2.closed && p.2.store.doc == some d)

theorem inForce_iff (s : State) (loc : Loc) (d : DocA) : inForce s loc d ↔ inForceB s loc d = true := by
  unfold inForce inForceB
  rw [List.any_eq_true]
  constructor
  · rintro ⟨e, hmem, hl, hc, hd⟩
    exact ⟨(loc, e), hmem, by simp [hl, hc, hd]⟩
  · rintro ⟨⟨l, e⟩, hmem, hp⟩
    simp only [Bool.and_eq_true, beq_iff_eq, Bool.not_eq_true'] at hp
    obtain ⟨⟨⟨rfl, hl⟩, hc⟩, hd⟩ := hp
    exact ⟨e, hmem, hl, hc, hd⟩

instance (s : State) (loc : Loc) (d : DocA) : Decidable (inForce s loc d) :=
  decidable_of_iff _ (inForce_iff s loc d).symm

theorem walk_spec (c : Cert) (order : List (Loc × Entry)) :
    match walk c order with
    | .notRevoked => ∀ p ∈ order, p.2.closed = false ∧ (p.2.loaded && listed p.2.store c) = false
    | .revoked => ∃ p ∈ order, p.2.loaded = true ∧ p.2.closed = false ∧ listed p.2.store c = true
    | .error => ∃ p ∈ order, p.2.closed = true := by
  induction order with
  | nil => intro p hp; cases hp
  | cons q t ih =>
    unfold walk
    by_cases hc : q.2.closed = true
    · rw [if_pos hc]; exact ⟨q, List.mem_cons_self, hc⟩
    · rw [if_neg hc]
      by_cases hl : (q.2.loaded && listed q.2.store c) = true
      · rw [if_pos hl]
        rw [Bool.and_eq_true] at hl
        exact ⟨q, List.mem_cons_self, hl.1, by simpa using hc, hl.2⟩
      · rw [if_neg hl]
        generalize walk c t = r at ih ⊢
        cases r <;> simp only at ih ⊢
        · intro p hp
          rcases List.mem_cons.mp hp with rfl | hm
          · exact ⟨by simpa using hc, by simpa using hl⟩
          · exact ih p hm
        · exact ih.imp fun p h => ⟨List.mem_cons_of_mem _ h.1, h.2⟩
        · exact ih.imp fun p h => ⟨List.mem_cons_of_mem _ h.1, h.2⟩

theorem isRevoked_cases (s : State) (order : List (Loc × Entry)) (c : Cert) :
    isRevoked s order c = .error ∨ (isRevoked s order c = walk c order ∧
      ∀ loc, c.cdp = some loc → s.cfg.strict = true → presentAndLoaded s loc = true) := by
  fun_cases isRevoked s order c
  case case3 loc hcdp _ h =>
    refine Or.inr ⟨rfl, fun loc' hl hs => ?_⟩
    obtain rfl : loc = loc' := Option.some.inj (hcdp.symm.trans hl)
    simpa [hs] using h
  case case4 hcdp => exact Or.inr ⟨rfl, fun loc hl => by rw [hcdp] at hl; cases hl⟩
  all_goals exact Or.inl rfl

theorem mem_upsert {α : Type} (l : List (Loc × α)) (k : Loc) (v : α) (p : Loc × α) (h : p ∈ upsert l k v) :
    p = (k, v) ∨ p ∈ l := by
  fun_induction upsert l k v with
  | case1 => exact Or.inl (List.mem_singleton.mp h)
  | case2 k' v' t _ => exact (List.mem_cons.mp h).imp_right (List.mem_cons_of_mem _)
  | case3 k' v' t _ ih =>
    rcases List.mem_cons.mp h with rfl | hm
    · exact Or.inr List.mem_cons_self
    · exact (ih hm).imp_right (List.mem_cons_of_mem _)

/-- Only this direction: that the keys of `entries` are unique is neither in `Inv` nor stated anywhere. -/
theorem lookup_mem {α : Type} {l : List (Loc × α)} {k : Loc} {v : α} (h : lookup l k = some v) : (k, v) ∈ l := by
  unfold lookup at h
  cases hf : l.find? (fun p => p.1 == k) with
  | none => rw [hf] at h; cases h
  | some p =>
    rw [hf] at h
    obtain rfl : p.2 = v := Option.some.inj h
    obtain rfl : p.1 = k := by simpa using List.find?_some hf
    exact List.mem_of_find?_eq_some hf

theorem lookup_upsert {α : Type} (l : List (Loc × α)) (k : Loc) (v : α) : lookup (upsert l k v) k = some v := by
  fun_induction upsert l k v with
  | case1 => simp [lookup]
  | case2 => simp [lookup]
  | case3 k' v' t hk ih =>
    unfold lookup at ih ⊢
    simp only [List.find?_cons, hk]
    exact ih

theorem acceptable_of_verifies {m : SigMode} {d : DocA} {cands : List Signer} (h : verifies d cands = true) :
    acceptable m d cands = true := by
  cases m <;> first | rfl | exact h

theorem stage_ok {m : SigMode} {honour : Bool} {sv : Served} {cands : List Signer} {st : Store} {d : DocA} {v : Bool} :
    stage m honour sv cands = .ok st d v →
    sv = .doc d ∧ acceptable m d cands = true ∧ st = ⟨some d, true, if v then some d.signer else none⟩ ∧
      if v then verifies d cands = true else m ≠ .verify := by
  fun_cases stage m honour sv cands
  case case3 a h1 =>
    obtain ⟨-, rfl⟩ : honour = true ∧ m = .none := by simpa using h1
    rintro ⟨⟩; exact ⟨rfl, rfl, rfl, nofun⟩
  case case4 a _ hv => rintro ⟨⟩; exact ⟨rfl, acceptable_of_verifies hv, rfl, hv⟩
  case case5 a _ _ h3 =>
    obtain ⟨-, rfl⟩ : honour = true ∧ m = .verifyLog := by simpa using h3
    rintro ⟨⟩; exact ⟨rfl, rfl, rfl, nofun⟩
  all_goals nofun

theorem stage_sigFail {m : SigMode} {honour : Bool} {sv : Served} {cands : List Signer} {d : DocA} :
    stage m honour sv cands = .sigFail d → (honour = true → m = .verify) ∧ sv = .doc d ∧ verifies d cands = false := by
  fun_cases stage m honour sv cands
  case case6 a h1 hv h3 =>
    rintro ⟨⟩
    refine ⟨?_, rfl, by simpa using hv⟩
    rintro rfl
    cases m with
    | none => exact absurd rfl h1
    | verifyLog => exact absurd rfl h3
    | verify => rfl
  all_goals nofun

/-- Only for `honourMode = true`: a refresh that verified regardless of the mode would refuse under `verify_log`/`none` what
`acceptable` admits. C16 instantiates `true` with the regenerated flags. -/
theorem stage_ok_iff (m : SigMode) (sv : Served) (cands : List Signer) :
    (∃ st d v, stage m true sv cands = .ok st d v) ↔ ∃ d, sv = .doc d ∧ acceptable m d cands = true := by
  constructor
  · rintro ⟨st, d, v, h⟩
    exact ⟨d, (stage_ok h).1, (stage_ok h).2.1⟩
  · rintro ⟨d, hsv, h⟩
    revert hsv
    fun_cases stage m true sv cands
    case case1 => nofun
    case case2 => nofun
    case case6 a h1 hv h3 =>
      rintro ⟨⟩
      -- neither `none` nor `verify_log`: the policy is `verifies`
      cases m with
      | none => exact absurd rfl h1
      | verifyLog => exact absurd rfl h3
      | verify => exact absurd h hv
    all_goals exact fun _ => ⟨_, _, _, rfl⟩

theorem stage_fail_not_doc (m : SigMode) (hm : Bool) (cands : List Signer) :
    stage m hm .down cands = .fetchFail ∧ stage m hm .garbage cands = .parseFail := ⟨rfl, rfl⟩

/-- `d` came into force at `loc` at some point, accepted under the signature mode configured *at that intake*
(`a.mode`, see `log_mode_at_intake`) against the candidate signers available at that intake. -/
def Accepted (s : State) (loc : Loc) (d : DocA) : Prop :=
  ∃ a ∈ s.log, a.loc = loc ∧ a.doc = d ∧ acceptable a.mode d a.cands = true

/-- `d` was verified at `loc` against the candidate signers presented at some intake (or signature-certificate retry). -/
def Verified (s : State) (loc : Loc) (d : DocA) : Prop :=
  ∃ a ∈ s.log, a.loc = loc ∧ a.doc = d ∧ verifies d a.cands = true

/-- The signer `sg` verified some list of `loc` against presented candidates. -/
def SignerSeen (s : State) (loc : Loc) (sg : Signer) : Prop :=
  ∃ a ∈ s.log, a.loc = loc ∧ a.doc.signer = sg ∧ verifies a.doc a.cands = true

/-- Beware of the names: `he.store.signer` below is a clause of the invariant about `e.store.signer`, not the field. -/
structure StoreOK (s : State) (loc : Loc) (st : Store) : Prop where
  accepted : ∀ d, st.doc = some d → Accepted s loc d
  signer : ∀ sg, st.signer = some sg → SignerSeen s loc sg
  verified : ∀ d, st.doc = some d → st.signer.isSome = true → Verified s loc d

/-- `failed` says where a set failure flag can come from: a refresh that failed under `verify` (store untouched; the flag
may sit on a not loaded entry, which the retry ignores), or one that installed the unverified list under `verify_log` — then
`lastDoc` *is* the stored list, so verifying `lastDoc` verifies the store (`ext_retrySigner`). Never under `none`. -/
structure EntryOK (s : State) (loc : Loc) (e : Entry) : Prop where
  store : StoreOK s loc e.store
  loadedDoc : e.loaded = true → e.store.doc.isSome = true
  verifySigner : s.cfg.sigMode = .verify → e.loaded = true → e.store.signer.isSome = true
  failed : e.sigFailed = true → s.cfg.sigMode = .verify ∨
    (s.cfg.sigMode = .verifyLog ∧ e.loaded = true ∧ ∀ d, e.lastDoc = some d → e.store.doc = some d)

def Inv (s : State) : Prop :=
  (∀ p ∈ s.entries, EntryOK s p.1 p.2) ∧ (∀ p ∈ s.disk, StoreOK s p.1 p.2)

theorem storeOK_mono {s s' : State} (hl : ∀ a ∈ s.log, a ∈ s'.log) {loc : Loc} {st : Store}
    (h : StoreOK s loc st) : StoreOK s' loc st :=
  -- `Accepted`, `SignerSeen`, `Verified` each ask for a record in the log
  have mono : ∀ {P : Accept → Prop}, (∃ a ∈ s.log, P a) → ∃ a ∈ s'.log, P a := fun ⟨a, ha, h⟩ => ⟨a, hl a ha, h⟩
  ⟨fun d hd => mono (h.accepted d hd), fun sg hs => mono (h.signer sg hs), fun d hd hs => mono (h.verified d hd hs)⟩

theorem entryOK_mono {s s' : State} (hm : s'.cfg.sigMode = s.cfg.sigMode) (hl : ∀ a ∈ s.log, a ∈ s'.log)
    {loc : Loc} {e : Entry} (h : EntryOK s loc e) : EntryOK s' loc e :=
  ⟨storeOK_mono hl h.store, h.loadedDoc, by rw [hm]; exact h.verifySigner, by rw [hm]; exact h.failed⟩

theorem storeOK_empty (s : State) (loc : Loc) : StoreOK s loc {} :=
  ⟨fun _ h => (nomatch h), fun _ h => (nomatch h), fun _ h => (nomatch h)⟩

theorem inv_frame (s s' : State) (hm : s'.cfg.sigMode = s.cfg.sigMode) (hl : ∀ a ∈ s.log, a ∈ s'.log)
    (he : ∀ p ∈ s'.entries, p ∈ s.entries ∨ EntryOK s' p.1 p.2)
    (hd : ∀ p ∈ s'.disk, p ∈ s.disk ∨ StoreOK s' p.1 p.2)
    (h : Inv s) : Inv s' :=
  ⟨fun p hp => (he p hp).elim (fun hold => entryOK_mono hm hl (h.1 p hold)) id,
   fun p hp => (hd p hp).elim (fun hold => storeOK_mono hl (h.2 p hold)) id⟩

theorem entryOK_of_mem {s : State} (h : Inv s) {loc : Loc} {e : Entry} (hm : lookup s.entries loc = some e) :
    EntryOK s loc e :=
  h.1 (loc, e) (lookup_mem hm)

theorem Inv.inForce_verified {s : State} (h : Inv s) (hm : s.cfg.sigMode = .verify) {loc : Loc} {d : DocA}
    (hf : inForce s loc d) : Verified s loc d := by
  obtain ⟨e, hmem, hl, -, hdoc⟩ := hf
  have he := h.1 (loc, e) hmem
  exact he.store.verified d hdoc (he.verifySigner hm hl)

theorem Inv.inForce_signer {s : State} (h : Inv s) (hm : s.cfg.sigMode = .verify) {loc : Loc} {d : DocA}
    (hf : inForce s loc d) :
    ∃ e sg, (loc, e) ∈ s.entries ∧ e.store.doc = some d ∧ e.store.signer = some sg ∧ SignerSeen s loc sg := by
  obtain ⟨e, hmem, hl, -, hdoc⟩ := hf
  have he := h.1 (loc, e) hmem
  obtain ⟨sg, hsg⟩ := Option.isSome_iff_exists.mp (he.verifySigner hm hl)
  exact ⟨e, sg, hmem, hdoc, hsg, he.store.signer sg hsg⟩

theorem setEntry_cfg (s : State) (loc : Loc) (e : Entry) : (setEntry s loc e).cfg = s.cfg := rfl
theorem setEntry_log (s : State) (loc : Loc) (e : Entry) : (setEntry s loc e).log = s.log := rfl

theorem lookup_setEntry (s : State) (loc : Loc) (e : Entry) : lookup (setEntry s loc e).entries loc = some e :=
  lookup_upsert _ _ _

/-- The one state change every operation is made of: the entry at `loc` is written (with the disk backend also its store)
and the acceptances `l` are recorded. The model spells this record update out wherever it occurs; `ext_staged` and `ext_write`
apply to those terms because `write` unfolds to them. -/
def write (s : State) (loc : Loc) (e : Entry) (l : List Accept) : State :=
  { setEntry s loc e with log := s.log ++ l }

theorem write_nil (s : State) (loc : Loc) (e : Entry) : write s loc e [] = setEntry s loc e := by
  unfold write; rw [List.append_nil]; rfl

theorem lookup_write (s : State) (loc : Loc) (e : Entry) (l : List Accept) :
    lookup (write s loc e l).entries loc = some e := lookup_upsert _ _ _

theorem log_write_mono {s : State} {loc : Loc} {e : Entry} {l : List Accept} {a : Accept} (h : a ∈ s.log) :
    a ∈ (write s loc e l).log := List.mem_append_left l h

theorem mem_log_write {s : State} {loc : Loc} {e : Entry} {a : Accept} : a ∈ (write s loc e [a]).log :=
  List.mem_append_right _ (List.mem_singleton.mpr rfl)

structure Ext (s s' : State) : Prop where
  cfg : s'.cfg = s.cfg
  mono : ∀ a ∈ s.log, a ∈ s'.log
  fresh : ∀ a ∈ s'.log, a ∈ s.log ∨ a.mode = s.cfg.sigMode
  inv : Inv s → Inv s'

theorem Ext.refl (s : State) : Ext s s := ⟨rfl, fun _ h => h, fun _ h => Or.inl h, id⟩

theorem Ext.trans {s s1 s2 : State} (h1 : Ext s s1) (h2 : Ext s1 s2) : Ext s s2 := by
  refine ⟨h2.cfg.trans h1.cfg, fun a ha => h2.mono a (h1.mono a ha), ?_, fun h => h2.inv (h1.inv h)⟩
  intro a ha
  rcases h2.fresh a ha with h | h
  · exact h1.fresh a h
  · exact Or.inr (by rw [h, h1.cfg])

theorem Ext.of_same {s s' : State} (hc : s'.cfg = s.cfg) (hl : s'.log = s.log) (hi : Inv s → Inv s') : Ext s s' :=
  ⟨hc, fun _ h => hl ▸ h, fun _ h => Or.inl (hl ▸ h), hi⟩

theorem ext_write (s : State) (loc : Loc) (e : Entry) (l : List Accept) (hl : ∀ a ∈ l, a.mode = s.cfg.sigMode)
    (he : Inv s → EntryOK (write s loc e l) loc e) : Ext s (write s loc e l) := by
  refine ⟨rfl, fun _ => log_write_mono, fun a ha => (List.mem_append.mp ha).imp_right (hl a), fun h => ?_⟩
  -- the entry written (with the disk backend also its store) is fine by `he`, everything else was there before
  refine inv_frame s _ rfl (fun _ => log_write_mono) (fun p hp => ?_) (fun p hp => ?_) h
  · exact (mem_upsert _ _ _ _ hp).imp (fun hp => hp ▸ he h) id |>.symm
  · simp only [write, setEntry] at hp
    split at hp
    · exact (mem_upsert _ _ _ _ hp).imp (fun hp => hp ▸ (he h).store) id |>.symm
    · exact Or.inl hp

theorem ext_setEntry (s : State) (loc : Loc) (e : Entry) (he : Inv s → EntryOK s loc e) : Ext s (setEntry s loc e) := by
  rw [← write_nil]
  exact ext_write s loc e [] nofun fun h => entryOK_mono (s := s) (s' := write s loc e []) rfl (fun _ => log_write_mono) (he h)

/-- Swapping in a successfully staged store and recording the acceptance: what is left to show is the clause about the
failure flag of the entry written. -/
theorem ext_staged {s : State} {loc : Loc} {honour : Bool} {sv : Served} {cands : List Signer}
    {st : Store} {d : DocA} {v : Bool} (hst : stage s.cfg.sigMode honour sv cands = .ok st d v) (e : Entry) (hes : e.store = st)
    (hf : Inv s → e.sigFailed = true → s.cfg.sigMode = .verify ∨
      (s.cfg.sigMode = .verifyLog ∧ e.loaded = true ∧ ∀ d', e.lastDoc = some d' → e.store.doc = some d')) :
    Ext s (write s loc e [⟨loc, d, cands, s.cfg.sigMode⟩]) := by
  refine ext_write s loc e _ (List.forall_mem_singleton.mpr rfl) fun hinv => ?_
  obtain ⟨-, hacc, rfl, hv⟩ := stage_ok hst
  refine ⟨⟨?_, ?_, ?_⟩, fun _ => by rw [hes]; rfl, fun hm _ => ?_, hf hinv⟩ <;> rw [hes]
  · rintro _ ⟨⟩; exact ⟨_, mem_log_write, rfl, rfl, hacc⟩
  · intro sg hs; cases v <;> cases hs; exact ⟨_, mem_log_write, rfl, rfl, hv⟩
  · rintro _ ⟨⟩ hs; cases v <;> cases hs; exact ⟨_, mem_log_write, rfl, rfl, hv⟩
  · cases v
    · exact absurd hm hv
    · rfl

theorem loadCRL_cfg (s : State) (loc : Loc) (e : Entry) (cands : List Signer) : (loadCRL s loc e cands).1.cfg = s.cfg := by
  fun_cases loadCRL s loc e cands <;> rfl
theorem updateCrlEntry_cfg (s : State) (loc : Loc) (e : Entry) (nc : Option (List Signer)) :
    (updateCrlEntry s loc e nc).1.cfg = s.cfg := by
  fun_cases updateCrlEntry s loc e nc <;> rfl
theorem loadActively_cfg (s : State) (loc : Loc) (e : Entry) (cands : List Signer) : (loadActively s loc e cands).1.cfg = s.cfg := by
  fun_cases loadActively s loc e cands
  · rfl
  · exact loadCRL_cfg _ loc _ cands

/-- `C10.failed_load_stays_unloaded` and `C11.rejected_load_leaves_nothing` are this statement. -/
theorem loadCRL_err {s : State} {loc : Loc} {e : Entry} {cands : List Signer} :
    (loadCRL s loc e cands).2 = .err → (loadCRL s loc e cands).1 = s := by
  fun_cases loadCRL s loc e cands
  case case2 => nofun
  all_goals exact fun _ => rfl

theorem loadCRL_ok_loaded (s : State) (loc : Loc) (e : Entry) (cands : List Signer) :
    (loadCRL s loc e cands).2 = .ok → ∀ e', lookup (loadCRL s loc e cands).1.entries loc = some e' → e'.loaded = true := by
  fun_cases loadCRL s loc e cands
  case case2 => rintro - _ h; cases (lookup_write ..).symm.trans h; rfl
  all_goals nofun

theorem ext_loadCRL (s : State) (loc : Loc) (e : Entry) (cands : List Signer)
    (hcur : lookup s.entries loc = some e) (hnl : e.loaded = false) : Ext s (loadCRL s loc e cands).1 := by
  fun_cases loadCRL s loc e cands
  case case2 _ st d v hst _ =>
    refine ext_staged hst _ rfl fun hinv hsf => ?_
    -- a failure flag on a not loaded entry was set under `verify`
    rcases (entryOK_of_mem hinv hcur).failed hsf with h1 | ⟨-, h2, -⟩
    · exact Or.inl h1
    · rw [hnl] at h2; cases h2
  all_goals exact Ext.refl s

/-- No hypothesis on the loaded flag (contrast `ext_loadCRL`): `UpdateCRL` of provisioning refreshes not loaded entries too. -/
theorem ext_updateCrlEntry (s : State) (loc : Loc) (e : Entry) (nc : Option (List Signer))
    (hcur : lookup s.entries loc = some e) : Ext s (updateCrlEntry s loc e nc).1 := by
  fun_cases updateCrlEntry s loc e nc
  case case3 _ _ _ st d v hst e' =>
    refine ext_staged hst _ rfl fun hinv hsf => ?_
    obtain ⟨-, -, rfl, hne⟩ := stage_ok hst
    cases v
    case true => cases hsf
    · -- not verified, so the mode is not `verify`; under `none` the old flag is kept, and it cannot have been set
      show _ ∨ (s.cfg.sigMode = _ ∧ _ ∧ _)
      cases hmode : s.cfg.sigMode with
      | verify => exact absurd hmode hne
      -- the refresh marks the entry loaded (regenerated fact `updateMarksLoaded`)
      | verifyLog => exact Or.inr ⟨rfl, by simp [e', updateMarksLoaded], by simp [e', hmode]⟩
      | none =>
        have hsf' : e.sigFailed = true := by simpa [e', hmode] using hsf
        rcases (entryOK_of_mem hinv hcur).failed hsf' with h1 | ⟨h1, -⟩ <;> rw [hmode] at h1 <;> cases h1
  case case4 _ _ _ d hst =>
    refine ext_setEntry s loc _ fun hinv => ?_
    have he := entryOK_of_mem hinv hcur
    -- `rfl : refreshHonoursMode = true` (regenerated fact): a refresh that ignored the mode could fail under
    -- `verify_log`/`none`, and `failed` would not hold
    exact ⟨he.store, he.loadedDoc, he.verifySigner, fun _ => Or.inl ((stage_sigFail hst).1 rfl)⟩
  all_goals exact Ext.refl s

theorem entryOK_hasLocs {s : State} {loc : Loc} {e : Entry} (he : EntryOK s loc e) :
    EntryOK s loc { e with store := { e.store with hasLocs := true } } :=
  ⟨⟨he.store.accepted, he.store.signer, he.store.verified⟩, he.loadedDoc, he.verifySigner, he.failed⟩

theorem ext_loadActively (s : State) (loc : Loc) (e : Entry) (cands : List Signer)
    (hcur : lookup s.entries loc = some e) (hnl : e.loaded = false) : Ext s (loadActively s loc e cands).1 := by
  fun_cases loadActively s loc e cands
  · exact Ext.refl s
  · exact (ext_setEntry s loc _ fun h => entryOK_hasLocs (entryOK_of_mem h hcur)).trans
      (ext_loadCRL _ loc _ cands (lookup_setEntry _ _ _) hnl)

theorem loadActively_ok_loaded (s : State) (loc : Loc) (e : Entry) (cands : List Signer) :
    (loadActively s loc e cands).2 = .ok →
    ∀ e', lookup (loadActively s loc e cands).1.entries loc = some e' → e'.loaded = true := by
  fun_cases loadActively s loc e cands
  · nofun
  · exact loadCRL_ok_loaded _ loc _ cands

/-- The two bindings at the head of `addCRL`: `getOrAddEntry`, then the location write (`storeCRLLocationsIfNotLoaded`). -/
def getOrAdd (s : State) (loc : Loc) (cands : List Signer) : State × Entry × Bool :=
  match lookup s.entries loc with
  | some e => (s, e, false)
  | none => (setEntry s loc (newEntry s loc cands), newEntry s loc cands, true)

def storeLocs (s : State) (loc : Loc) (e : Entry) (added : Bool) : State × Entry :=
  if added && !e.loaded && locationsStoredOnAdd then
    (setEntry s loc { e with store := { e.store with hasLocs := true } }, { e with store := { e.store with hasLocs := true } })
  else (s, e)

/-- The signature-certificate retry of `AddCRL` (`tryUpdateSignatureCertFromChain`) on the entry `e` at `loc`. -/
def retrySigner (s : State) (loc : Loc) (e : Entry) (cands : List Signer) : State :=
  if e.sigFailed && (e.loaded || !retryOnlyWhenLoaded) then
    match e.lastDoc with
    | some d =>
      if verifies d cands then
        -- ghost: the later verification of `d` against the presented candidates is recorded
        write s loc { e with sigFailed := false, store := { e.store with signer := some d.signer } }
          [⟨loc, d, cands, s.cfg.sigMode⟩]
      else s
    | none => s
  else s

/-- `addNewEmptyEntry`: the entry opened over the persisted directory. Under `verify` it only counts as loaded when a signer
certificate is stored with the list (regenerated fact `persistedNeedsSignerUnderVerify`). -/
theorem entryOK_new {s : State} (h : Inv s) (loc : Loc) (cands : List Signer) :
    EntryOK s loc (newEntry s loc cands) := by
  have key : ∀ st : Store, StoreOK s loc st →
      EntryOK s loc { store := st, loaded := st.doc.isSome &&
        (!(persistedNeedsSignerUnderVerify && s.cfg.sigMode == .verify) || st.signer.isSome), chains := cands } := by
    intro st hst
    refine ⟨hst, fun hx => ?_, fun hmv hx => ?_, nofun⟩
    · exact (Bool.and_eq_true _ _ ▸ hx).1
    · have := (Bool.and_eq_true _ _ ▸ hx).2
      simpa [hmv, persistedNeedsSignerUnderVerify] using this
  unfold newEntry
  split
  · cases hl : lookup s.disk loc with
    | none => exact key {} (storeOK_empty s loc)
    | some st => exact key st (h.2 (loc, st) (lookup_mem hl))
  · exact key {} (storeOK_empty s loc)

/-- `e1` is the entry at `loc` after the head of `addCRL`; an entry that was there before is left as it was. -/
structure Opened (s : State) (loc : Loc) (s1 : State) (e1 : Entry) : Prop where
  ext : Ext s s1
  cur : lookup s1.entries loc = some e1
  same : ∀ e, lookup s.entries loc = some e → s1 = s ∧ e1 = e

theorem opened_of_head {s s1 s2 : State} {loc : Loc} {cands : List Signer} {e1 e2 : Entry} {added : Bool}
    (h1 : getOrAdd s loc cands = (s1, e1, added)) (h2 : storeLocs s1 loc e1 added = (s2, e2)) : Opened s loc s2 e2 := by
  revert s1 e1 added
  fun_cases getOrAdd s loc cands <;> rintro _ _ _ ⟨⟩
  case case1 e he =>
    rintro ⟨⟩
    exact ⟨Ext.refl s, he, fun e' he' => ⟨rfl, Option.some.inj (he.symm.trans he')⟩⟩
  case case2 hn =>
    have h1 := ext_setEntry s loc _ fun h => entryOK_new h loc cands
    have hno : ∀ e, lookup s.entries loc = some e → s2 = s ∧ e2 = e := fun e he => by rw [hn] at he; cases he
    fun_cases storeLocs <;> rintro ⟨⟩
    · exact ⟨h1.trans (ext_setEntry _ loc _ fun h => entryOK_hasLocs (entryOK_of_mem h (lookup_setEntry _ _ _))),
        lookup_setEntry _ _ _, hno⟩
    · exact ⟨h1, lookup_setEntry _ _ _, hno⟩

theorem ext_retrySigner (s : State) (loc : Loc) (e : Entry) (cands : List Signer)
    (hcur : lookup s.entries loc = some e) : Ext s (retrySigner s loc e cands) := by
  fun_cases retrySigner s loc e cands
  case case1 hc d hld hv =>
    obtain ⟨hsf, hloaded⟩ : e.sigFailed = true ∧ e.loaded = true := by simpa [retryOnlyWhenLoaded] using hc
    refine ext_write s loc _ _ (List.forall_mem_singleton.mpr rfl) fun hinv => ?_
    have he := entryOK_of_mem hinv hcur
    refine ⟨⟨(storeOK_mono (fun _ => log_write_mono) he.store).accepted, ?_, fun d' hd' _ => ?_⟩, he.loadedDoc, fun _ _ => rfl, nofun⟩
    · rintro _ ⟨⟩
      exact ⟨_, mem_log_write, rfl, rfl, hv⟩
    · rcases he.failed hsf with hmv | ⟨-, -, hsame⟩
      · -- under `verify` the entry is loaded, so its store already carried a signer certificate
        exact (storeOK_mono (fun _ => log_write_mono) he.store).verified d' hd' (he.verifySigner hmv hloaded)
      · -- under `verify_log` the store holds exactly the list whose verification failed
        obtain rfl : d = d' := Option.some.inj ((hsame d hld).symm.trans hd')
        exact ⟨_, mem_log_write, rfl, rfl, hv⟩
  all_goals exact Ext.refl s

/-- The retry only touches loaded entries (regenerated fact `retryOnlyWhenLoaded`), and leaves them loaded. -/
theorem retrySigner_loaded (s : State) (loc : Loc) (e : Entry) (cands : List Signer) :
    (e.loaded = false → retrySigner s loc e cands = s) ∧
    ∀ e', lookup s.entries loc = some e → lookup (retrySigner s loc e cands).entries loc = some e' → e'.loaded = e.loaded := by
  fun_cases retrySigner s loc e cands
  case case1 hc _ _ _ =>
    refine ⟨fun hnl => by simp [hnl, retryOnlyWhenLoaded] at hc, fun e' _ he' => ?_⟩
    cases (lookup_write ..).symm.trans he'; rfl
  all_goals exact ⟨fun _ => rfl, fun e' h he' => by cases h.symm.trans he'; rfl⟩

/-- `AddCRL` refuses, or opens the entry and then either loads it (fetch mode `actively`, not yet loaded) or retries the
signer certificate. -/
theorem addCRL_cases (s : State) (loc : Loc) (cands : List Signer) :
    addCRL s loc cands = (s, false, .err) ∨
    ∃ s1 e1 added, Opened s loc s1 e1 ∧
      ((s.cfg.fetch = .actively ∧ e1.loaded = false ∧
          addCRL s loc cands = ((loadActively s1 loc e1 cands).1, added, (loadActively s1 loc e1 cands).2)) ∨
       ((s.cfg.fetch = .actively → e1.loaded = true) ∧
          addCRL s loc cands = (retrySigner s1 loc e1 cands, added, .ok))) := by
  fun_cases addCRL s loc cands
  case case1 => exact Or.inl rfl
  case case2 s1 e1 added h1 s2 e2 h2 hact s3 o h3 =>
    -- `h1`, `h2` speak of `addCRL`'s own `match`/`if`; `opened_of_head` takes them because `getOrAdd`/`storeLocs` unfold to
    -- exactly these terms. This, and the `rfl` of `case3` for `retrySigner`, is where the copies above are checked against the model.
    have ho := opened_of_head h1 h2
    -- the statement speaks of `s.cfg.fetch`, `addCRL` tests the configuration after the head: the same
    rw [Bool.and_eq_true, beq_iff_eq, Bool.not_eq_true', ho.ext.cfg] at hact
    exact Or.inr ⟨s2, e2, added, ho, Or.inl ⟨hact.1, hact.2, by rw [h3]⟩⟩
  case case3 s1 e1 added h1 s2 e2 h2 hact _ =>
    have ho := opened_of_head h1 h2
    exact Or.inr ⟨s2, e2, added, ho, Or.inr ⟨fun hf => by simpa [ho.ext.cfg, hf] using hact, rfl⟩⟩

theorem ext_addCRL (s : State) (loc : Loc) (cands : List Signer) : Ext s (addCRL s loc cands).1 := by
  rcases addCRL_cases s loc cands with h | ⟨s1, e1, added, ho, ⟨-, hnl, h⟩ | ⟨-, h⟩⟩ <;> rw [h]
  · exact Ext.refl s
  · exact ho.ext.trans (ext_loadActively s1 loc e1 cands ho.cur hnl)
  · exact ho.ext.trans (ext_retrySigner s1 loc e1 cands ho.cur)

theorem retry_needs_loaded (s : State) (loc : Loc) (cands : List Signer) (e : Entry)
    (hl : lookup s.entries loc = some e) (hnl : e.loaded = false) (hf : s.cfg.fetch ≠ .actively) :
    (addCRL s loc cands).1 = s := by
  rcases addCRL_cases s loc cands with h | ⟨s1, e1, added, ho, ⟨hf', -, -⟩ | ⟨-, h⟩⟩
  · rw [h]
  · exact absurd hf' hf
  · obtain ⟨rfl, rfl⟩ := ho.same e hl
    rw [h]
    exact (retrySigner_loaded s1 loc e1 cands).1 hnl

theorem retry_needs_loaded_signer (s : State) (loc : Loc) (cands : List Signer) (e : Entry)
    (hl : lookup s.entries loc = some e) (hnl : e.loaded = false) (hf : s.cfg.fetch ≠ .actively) :
    ∀ e', lookup (addCRL s loc cands).1.entries loc = some e' → e'.store.signer = e.store.signer := by
  rw [retry_needs_loaded s loc cands e hl hnl hf]
  intro e' he'
  rw [hl] at he'; cases he'; rfl

theorem addCRL_actively_loaded (s : State) (loc : Loc) (cands : List Signer) (hf : s.cfg.fetch = .actively)
    (hok : (addCRL s loc cands).2.2 = .ok) :
    ∀ e', lookup (addCRL s loc cands).1.entries loc = some e' → e'.loaded = true := by
  rcases addCRL_cases s loc cands with h | ⟨s1, e1, added, ho, ⟨-, -, h⟩ | ⟨hld, h⟩⟩ <;> rw [h] at hok ⊢
  · cases hok
  · exact loadActively_ok_loaded s1 loc e1 cands hok
  · -- the active load is skipped only for a loaded entry, and the retry keeps the flag
    intro e' he'
    rw [(retrySigner_loaded s1 loc e1 cands).2 e' ho.cur he']
    exact hld hf

theorem ext_updateOne (s : State) (loc : Loc) : Ext s (updateOne s loc) := by
  fun_cases updateOne s loc
  case case3 e hcur _ hnl => exact ext_loadCRL s loc e _ hcur (by simpa using hnl)
  case case4 e hcur _ _ => exact ext_updateCrlEntry s loc e none hcur
  all_goals exact Ext.refl s

theorem ext_updateAll (order : List Loc) (s : State) : Ext s (updateAll s order) :=
  List.foldlRecOn order updateOne (Ext.refl s) fun _ h loc _ => h.trans (ext_updateOne _ loc)

theorem ext_provisionOne (s : State) (loc : Loc) (trusted : List Signer) : Ext s (provisionOne s loc trusted).1 := by
  unfold provisionOne
  have h1 := ext_addCRL s loc trusted
  dsimp only
  split
  · exact h1
  · split
    · exact h1
    · rename_i e hcur; exact h1.trans (ext_updateCrlEntry _ loc e _ hcur)

theorem ext_handshake (s : State) (c : Cert) (cands : List Signer) : Ext s (handshake s c cands).1 := by
  unfold handshake
  split
  · exact ext_addCRL s _ cands
  · exact Ext.refl s

theorem addCRL_cfg (s : State) (loc : Loc) (cands : List Signer) : (addCRL s loc cands).1.cfg = s.cfg := (ext_addCRL s loc cands).cfg
theorem updateOne_cfg (s : State) (loc : Loc) : (updateOne s loc).cfg = s.cfg := (ext_updateOne s loc).cfg

/-- A restart drops the entries; what is on disk stays as it was taken in (whatever the mode afterwards). -/
theorem inv_drop {s s' : State} (hl : s'.log = s.log) (he : s'.entries = []) (hd : s'.disk = s.disk) (h : Inv s) :
    Inv s' :=
  ⟨fun p hp => (by rw [he] at hp; cases hp), fun p hp => storeOK_mono (fun _ ha => hl ▸ ha) (h.2 p (hd ▸ hp))⟩

theorem ext_close (s : State) : Ext s (close s) := by
  unfold close
  split
  · refine .of_same rfl rfl fun h => inv_frame s _ rfl (fun _ ha => ha) (fun p hp => Or.inr ?_) (fun _ hp => Or.inl hp) h
    obtain ⟨q, hq, rfl⟩ := List.mem_map.mp hp
    have hq := h.1 q hq
    exact ⟨⟨hq.store.accepted, hq.store.signer, hq.store.verified⟩, hq.loadedDoc, hq.verifySigner, hq.failed⟩
  · exact .of_same rfl rfl (inv_drop rfl rfl rfl)

theorem ext_step (s : State) (op : Op) (h : ∀ m, op ≠ .reconfigure m) : Ext s (step s op) := by
  have same : ∀ s' : State, s'.cfg = s.cfg → s'.log = s.log → s'.entries = s.entries → s'.disk = s.disk → Ext s s' :=
    fun s' hc hl he hd => .of_same hc hl
      (inv_frame s s' (by rw [hc]) (fun _ ha => hl ▸ ha) (fun _ hp => Or.inl (he ▸ hp)) (fun _ hp => Or.inl (hd ▸ hp)))
  cases op with
  | serve loc sv => exact same _ rfl rfl rfl rfl
  | handshake c cands => exact ext_handshake s c cands
  | tick order => exact ext_updateAll order s
  | provision loc trusted => exact ext_provisionOne s loc trusted
  | restart => exact .of_same rfl rfl (inv_drop rfl rfl rfl)
  | reconfigure m => exact absurd rfl (h m)
  | close => exact ext_close s
  | markUnsupported loc => exact same _ rfl rfl rfl rfl

theorem step_log_inv (s : State) (op : Op) :
    (∀ a ∈ s.log, a ∈ (step s op).log) ∧ (∀ a ∈ (step s op).log, a ∈ s.log ∨ a.mode = s.cfg.sigMode) ∧
      (Inv s → Inv (step s op)) := by
  by_cases hr : ∃ m, op = .reconfigure m
  · obtain ⟨m, rfl⟩ := hr
    exact ⟨fun _ h => h, fun _ h => Or.inl h, inv_drop rfl rfl rfl⟩
  · have := ext_step s op fun m hm => hr ⟨m, hm⟩
    exact ⟨this.mono, this.fresh, this.inv⟩

theorem inv_run (cfg : Cfg) (ops : List Op) : Inv (run cfg ops) :=
  List.foldlRecOn ops step ⟨fun _ h => (nomatch h), fun _ h => (nomatch h)⟩ fun s h op _ => (step_log_inv s op).2.2 h

theorem cfg_step_of_not_reconfigure (s : State) (op : Op) (h : ∀ m, op ≠ .reconfigure m) : (step s op).cfg = s.cfg :=
  (ext_step s op h).cfg

theorem cfg_step (s : State) (op : Op) :
    (step s op).cfg = match op with | .reconfigure m => { s.cfg with sigMode := m } | _ => s.cfg := by
  cases op with
  | reconfigure m => rfl
  | _ => exact cfg_step_of_not_reconfigure s _ (by intro m h; cases h)

theorem fetch_step (s : State) (op : Op) : (step s op).cfg.fetch = s.cfg.fetch := by
  rw [cfg_step]; cases op <;> rfl

theorem cfg_foldl (ops : List Op) : ∀ s : State,
    (ops.foldl step s).cfg = { s.cfg with sigMode := modeAfter s.cfg.sigMode ops } := by
  induction ops with
  | nil => intro s; rfl
  | cons o t ih =>
    intro s
    rw [List.foldl_cons, ih, cfg_step]
    cases o <;> rfl

theorem cfg_run (cfg : Cfg) (ops : List Op) : (run cfg ops).cfg = { cfg with sigMode := modeAfter cfg.sigMode ops } :=
  cfg_foldl ops _

theorem fetch_run (cfg : Cfg) (ops : List Op) : (run cfg ops).cfg.fetch = cfg.fetch := by rw [cfg_run]
theorem strict_run (cfg : Cfg) (ops : List Op) : (run cfg ops).cfg.strict = cfg.strict := by rw [cfg_run]
theorem disk_run (cfg : Cfg) (ops : List Op) : (run cfg ops).cfg.disk = cfg.disk := by rw [cfg_run]
theorem sigMode_run (cfg : Cfg) (ops : List Op) : (run cfg ops).cfg.sigMode = modeAfter cfg.sigMode ops := by rw [cfg_run]

theorem modeAfter_of_no_reconfigure (m : SigMode) (ops : List Op) (h : ∀ op ∈ ops, ∀ m', op ≠ .reconfigure m') :
    modeAfter m ops = m :=
  List.foldlRecOn ops _ (motive := fun m' => m' = m) rfl fun m' hm op hop => by
    cases op with
    | reconfigure m'' => exact absurd rfl (h _ hop m'')
    | _ => exact hm

theorem cfg_run_of_no_reconfigure (cfg : Cfg) (ops : List Op) (h : ∀ op ∈ ops, ∀ m', op ≠ .reconfigure m') :
    (run cfg ops).cfg = cfg := by
  rw [cfg_run, modeAfter_of_no_reconfigure _ _ h]

theorem modeAfter_append_reconfigure (m0 : SigMode) (pre : List Op) (m : SigMode) (suf : List Op)
    (h : ∀ op ∈ suf, ∀ m', op ≠ .reconfigure m') : modeAfter m0 (pre ++ .reconfigure m :: suf) = m := by
  unfold modeAfter
  rw [List.foldl_append, List.foldl_cons]
  exact modeAfter_of_no_reconfigure m suf h

theorem log_run_mono (cfg : Cfg) (pre suf : List Op) : ∀ a ∈ (run cfg pre).log, a ∈ (run cfg (pre ++ suf)).log := by
  rw [run_append]
  exact fun a ha => List.foldlRecOn suf step ha fun s h op _ => (step_log_inv s op).1 a h

theorem log_foldl_mode (ops : List Op) : ∀ s : State, ∀ a ∈ (ops.foldl step s).log,
    a ∈ s.log ∨ ∃ pre suf, ops = pre ++ suf ∧ (pre.foldl step s).cfg.sigMode = a.mode := by
  induction ops with
  | nil => intro s a h; exact Or.inl h
  | cons o t ih =>
    intro s a h
    rcases ih _ a h with h1 | ⟨pre, suf, heq, hm⟩
    · rcases (step_log_inv s o).2.1 a h1 with h2 | h2
      · exact Or.inl h2
      · exact Or.inr ⟨[], o :: t, rfl, h2.symm⟩
    · exact Or.inr ⟨o :: pre, suf, by rw [heq]; rfl, hm⟩

/-- **Mode at the time of intake:** the mode a log record carries is the mode that was configured when it was written —
the mode of the run after some prefix of the history. -/
theorem log_mode_at_intake (cfg : Cfg) (ops : List Op) : ∀ a ∈ (run cfg ops).log,
    ∃ pre suf, ops = pre ++ suf ∧ (run cfg pre).cfg.sigMode = a.mode := by
  intro a h
  rcases log_foldl_mode ops _ a h with h1 | h1
  · cases h1
  · exact h1

theorem accepted_at_intake (cfg : Cfg) (ops : List Op) (loc : Loc) (d : DocA) (h : Accepted (run cfg ops) loc d) :
    ∃ a ∈ (run cfg ops).log, a.loc = loc ∧ a.doc = d ∧
      ∃ pre suf, ops = pre ++ suf ∧ acceptable (run cfg pre).cfg.sigMode d a.cands = true := by
  obtain ⟨a, ha, hloc, hdoc, hacc⟩ := h
  obtain ⟨pre, suf, heq, hm⟩ := log_mode_at_intake cfg ops a ha
  exact ⟨a, ha, hloc, hdoc, pre, suf, heq, by rw [hm]; exact hacc⟩

end Crv.Repo
