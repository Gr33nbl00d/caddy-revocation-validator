import Crv.Proofs.ReaderSafe
/-!
The unsigned envelope of an accepted CRL (C04): facts that hold for **every** byte string and **every** oracle
whenever `readCRL` succeeds. The reader is followed through the file with `Sync file r` (the state is in step with the file)
and `Step file A r r'` (what a parser may do between two such states, logging only queries that satisfy `A`).
`Step file A r₀` is a stable invariant (`stable_step`), so the walk through the second pass (`safe_readBody`) takes each
parser's `Step` from the parser's one `Safe` lemma (`SafeFor.next`), together with what that lemma says about value and position.
The same walk keeps the allocation bound, so C07's theorem about `readCRL` (`readCRL_safe`: no panic, no stall, every
allocation request within `allocBound`) stands here too, after `safe_readBody`.
-/
namespace Crv
open Crv.Generated

/-- The bytes of `file` a query refers to. -/
def frameAt (file : Bytes) (q : Query) : Bytes := (file.drop q.off).take q.len

structure Sync (file : Bytes) (r : Rd) : Prop where
  rest : r.rest = file.drop r.pos
  le : r.pos ≤ file.length
  hash : r.hashing = true → r.hashFrom ≤ r.pos ∧ r.hashed = (file.drop r.hashFrom).take (r.pos - r.hashFrom)

structure Step (file : Bytes) (A : Query → Prop) (r r' : Rd) : Prop where
  sync : Sync file r'
  mono : r.pos ≤ r'.pos
  hashing : r'.hashing = r.hashing
  hashFrom : r'.hashFrom = r.hashFrom
  log : ∃ l, r'.queries = r.queries ++ l ∧ ∀ q ∈ l, A q

/-- Nothing but the ghost allocation and event logs changed. Not the `Core` of `ReaderDet`: that one contains `events`
and not `queries`. -/
structure SameCore (r r' : Rd) : Prop where
  rest : r'.rest = r.rest
  pos : r'.pos = r.pos
  hashing : r'.hashing = r.hashing
  hashed : r'.hashed = r.hashed
  hashFrom : r'.hashFrom = r.hashFrom
  queries : r'.queries = r.queries

theorem SameCore.refl (r : Rd) : SameCore r r := ⟨rfl, rfl, rfl, rfl, rfl, rfl⟩

theorem Sync.of_same {file : Bytes} {r r' : Rd} (hs : Sync file r) (h : SameCore r r') : Sync file r' := by
  refine ⟨?_, ?_, ?_⟩
  · rw [h.rest, h.pos]; exact hs.rest
  · rw [h.pos]; exact hs.le
  · rw [h.hashing, h.hashFrom, h.pos, h.hashed]; exact hs.hash

theorem sync_init (file : Bytes) : Sync file { rest := file } :=
  ⟨rfl, Nat.zero_le _, fun h => by cases h⟩

theorem Sync.region {file : Bytes} {r : Rd} (hs : Sync file r) (hh : r.hashing = true) :
    r.hashFrom + r.hashed.length = r.pos ∧ r.hashed = (file.drop r.hashFrom).take r.hashed.length := by
  obtain ⟨hf, hd⟩ := hs.hash hh
  have hlen : r.hashed.length = r.pos - r.hashFrom := by
    rw [hd, List.length_take, List.length_drop]
    exact Nat.min_eq_left (Nat.sub_le_sub_right hs.le _)
  rw [hlen]
  exact ⟨Nat.add_sub_cancel' hf, hd⟩

theorem step_of_same {file : Bytes} {A : Query → Prop} {r r' : Rd} (hs : Sync file r) (h : SameCore r r') :
    Step file A r r' :=
  ⟨hs.of_same h, by rw [h.pos]; exact Nat.le_refl _, h.hashing, h.hashFrom, [], by rw [h.queries, List.append_nil],
   by intro q hq; cases hq⟩

theorem step_refl {file : Bytes} {A : Query → Prop} {r : Rd} (hs : Sync file r) : Step file A r r :=
  step_of_same hs (SameCore.refl r)

theorem Step.trans {file : Bytes} {A : Query → Prop} {r r' r'' : Rd} (h1 : Step file A r r') (h2 : Step file A r' r'') :
    Step file A r r'' := by
  obtain ⟨l1, hl1, ha1⟩ := h1.log
  obtain ⟨l2, hl2, ha2⟩ := h2.log
  refine ⟨h2.sync, Nat.le_trans h1.mono h2.mono, h2.hashing.trans h1.hashing, h2.hashFrom.trans h1.hashFrom,
    l1 ++ l2, by rw [hl2, hl1, List.append_assoc], ?_⟩
  intro q hq
  rcases List.mem_append.mp hq with hq | hq
  · exact ha1 q hq
  · exact ha2 q hq

/-- A step that logs nothing. -/
theorem Step.queries_eq {file : Bytes} {r r' : Rd} (h : Step file (fun _ => False) r r') : r'.queries = r.queries := by
  obtain ⟨l, hl, ha⟩ := h.log
  cases l with
  | nil => rw [hl, List.append_nil]
  | cons q t => exact (ha q List.mem_cons_self).elim

theorem step_consume {file : Bytes} {A : Query → Prop} {r r' : Rd} (hs : Sync file r) (n : Nat) (hn : n ≤ r.rest.length)
    (h1 : r'.rest = r.rest.drop n) (h2 : r'.pos = r.pos + n) (h3 : r'.hashing = r.hashing)
    (h4 : r'.hashed = if r.hashing then r.hashed ++ r.rest.take n else r.hashed)
    (h5 : r'.hashFrom = r.hashFrom) (h6 : r'.queries = r.queries) : Step file A r r' := by
  have hle : r.pos + n ≤ file.length :=
    Nat.add_le_of_le_sub' hs.le (by rw [hs.rest, List.length_drop] at hn; exact hn)
  refine ⟨⟨?_, h2 ▸ hle, ?_⟩, h2 ▸ Nat.le_add_right _ _, h3, h5, [], by rw [h6, List.append_nil], by intro q hq; cases hq⟩
  · rw [h1, h2, hs.rest, List.drop_drop]
  · intro hh
    rw [h3] at hh
    obtain ⟨hf, hd⟩ := hs.hash hh
    rw [h5, h2, h4, if_pos hh]
    refine ⟨Nat.le_trans hf (Nat.le_add_right _ _), ?_⟩
    -- the slice up to `pos + n` is the slice up to `pos` followed by the next `n` bytes of the file
    rw [Nat.sub_add_comm hf, List.take_add, ← hd, List.drop_drop, Nat.add_sub_cancel' hf, ← hs.rest]

theorem stable_step (B : Nat) (file : Bytes) (A : Query → Prop) (r₀ : Rd) : Stable B A (Step file A r₀) where
  consume _ n hn h := h.trans (step_consume h.sync n hn rfl rfl rfl rfl rfl rfl)
  allocs _ _ _ h := h.trans (step_of_same h.sync ⟨rfl, rfl, rfl, rfl, rfl, rfl⟩)
  event _ _ h := h.trans (step_of_same h.sync ⟨rfl, rfl, rfl, rfl, rfl, rfl⟩)
  query _ q hq h := h.trans ⟨⟨h.sync.rest, h.sync.le, h.sync.hash⟩, Nat.le_refl _, rfl, rfl, [q], rfl,
    by intro q' hq'; rw [List.mem_singleton.mp hq']; exact hq⟩

/-- First pass: exactly one query, of kind `alg`, about exactly the returned frame; its decoding is the returned OID. -/
theorem prescan_ok {O : Oracle} {file : Bytes} {oid : List Nat} {f : Bytes} {r r' : Rd} (hs : Sync file r)
    (hh : r.hashing = false) (h : prescan O r = .ok (oid, f) r') :
    ∃ q, r'.queries = r.queries ++ [q] ∧ q.kind = .alg ∧ frameAt file q = f ∧ O.algOid f = some oid := by
  obtain ⟨n, hf, hq, ho⟩ := (safe_prescan O hh fun _ _ => trivial).ok h
  refine ⟨⟨.alg, r.pos + n, f.length⟩, hq, rfl, ?_, ho⟩
  show (file.drop (r.pos + n)).take f.length = f
  rw [← List.drop_drop, ← hs.rest]; exact hf.symm

/-- The queries of the second pass after the inner AlgorithmIdentifier are about other things. -/
def NotAlg (q : Query) : Prop := q.kind ≠ .alg

theorem notAlg_of_kind {k : QKind} (hk : k ≠ .alg := by decide) (off len : Nat) : NotAlg ⟨k, off, len⟩ := hk

/-- What a successful second pass from `r0` to `r2` establishes. `header`: the outer SEQUENCE header read at `r0`; the run
ends where it says, the hash starts right after it. `queries`: exactly one `alg` query `qi` in the second pass; its bytes
equal the frame the first pass returned and lie inside the hashed region. `sigWhole` is also a conjunct of `BodyPost`; C04
takes it from there (`readCRL_post`). -/
structure BodyEnvelope (file outerFrame : Bytes) (oid : List Nat) (r0 r2 : Rd) (res : ReadResult) : Prop where
  algOid : res.algOid = oid
  hashOk : lookupHash oid = some res.hashAlg
  header : ∃ outer ra, readTL r0 = .ok outer ra ∧ outer.tag = 0x30 ∧
    r2.pos = r0.pos + 1 + outer.lenSize + outer.len ∧ res.hashFrom = r0.pos + 1 + outer.lenSize
  inFile : r2.pos ≤ file.length
  queries : ∃ qi l, r2.queries = r0.queries ++ qi :: l ∧ qi.kind = .alg ∧ frameAt file qi = outerFrame ∧
    (∀ q ∈ l, q.kind ≠ .alg) ∧ res.hashFrom ≤ qi.off ∧ qi.off + qi.len ≤ res.hashFrom + res.hashRegion.length
  region : res.hashRegion = (file.drop res.hashFrom).take res.hashRegion.length
  regionEnd : res.hashFrom + res.hashRegion.length ≤ r2.pos
  sigWhole : res.sig.bitLen % 8 = 0

/-- The invariants the second pass as a whole keeps: those of the parsers (any allocation within `allocBound`, any query)
that also survive switching the hash on and off. -/
structure Stable₂ (I : Rd → Prop) : Prop extends Stable allocBound anyQuery I where
  hashing : ∀ r b, I r →
    I { r with hashing := b, hashed := if b then [] else r.hashed, hashFrom := if b then r.pos else r.hashFrom }

abbrev Safe₂ (m : RdM α) (r : Rd) (Q : α → Rd → Prop) : Prop := SafeFor Stable₂ m r Q

theorem stable₂_allocOK : Stable₂ (AllocOK allocBound) := ⟨stable_allocOK _ _, fun _ _ h => h⟩

theorem stable₂_true : Stable₂ (fun _ => True) := ⟨stable_true _ _, fun _ _ _ => trivial⟩

/-- `I` allows any query, so it allows those of `A`. -/
theorem Stable.and {B : Nat} {A : Query → Prop} {I J : Rd → Prop} (hI : Stable B anyQuery I) (hJ : Stable B A J) :
    Stable B A (fun r => I r ∧ J r) where
  consume r n hn h := ⟨hI.consume r n hn h.1, hJ.consume r n hn h.2⟩
  allocs r l hl h := ⟨hI.allocs r l hl h.1, hJ.allocs r l hl h.2⟩
  event r e h := ⟨hI.event r e h.1, hJ.event r e h.2⟩
  query r q hq h := ⟨hI.query r q trivial h.1, hJ.query r q hq h.2⟩

section
variable {r : Rd}

theorem safe₂_setHashing (b : Bool) : Safe₂ (setHashing b) r (fun _ r' => r' =
    { r with hashing := b, hashed := if b then [] else r.hashed, hashFrom := if b then r.pos else r.hashFrom }) :=
  fun _ hI hr => ⟨hI.hashing r b hr, rfl⟩

/-- One step of the second pass by a parser `m`: every invariant of the second pass is kept, and the continuation learns
the `Step` since `r₀` (with `m`'s own `A`), what `m`'s `Safe` lemma says, and the run itself. -/
theorem SafeFor.next {file : Bytes} {A : Query → Prop} {m : RdM α} {f : α → RdM β} {Q : α → Rd → Prop} {R : β → Rd → Prop}
    {r₀ : Rd} (hm : Safe allocBound A m r Q) (hs : Step file A r₀ r)
    (hf : ∀ a r', m r = .ok a r' → Step file A r₀ r' → Q a r' → Safe₂ (f a) r' R) : Safe₂ (m >>= f) r R := by
  intro I hI hr
  have h1 := hm _ (hI.toStable.and (stable_step _ file A r₀)) ⟨hr, hs⟩
  show match RdM.bind m f r with | .ok a r' => _ | .err e r' => _ | .panic _ => _
  unfold RdM.bind
  cases hres : m r with
  | ok a r' => rw [hres] at h1; exact hf a r' hres h1.1.2 h1.2 I hI h1.1.1
  | err e r' => rw [hres] at h1; exact ⟨h1.1.1, h1.2⟩
  | panic r' => rw [hres] at h1; exact h1

end

/-- What every successful second pass guarantees about its result, for every input: the critical-extension gate
was passed and the signature BIT STRING has no unused bits. -/
def BodyPost (res : ReadResult) : Prop :=
  (∀ es, res.exts = some es → criticalGate es = true) ∧ res.sig.bitLen % 8 = 0 ∧ res.sig.bitLen = 8 * res.sig.bytes.length

theorem sync_setHashing {file : Bytes} {r : Rd} (hs : Sync file r) (b : Bool) : Sync file
    { r with hashing := b, hashed := if b then [] else r.hashed, hashFrom := if b then r.pos else r.hashFrom } := by
  refine ⟨hs.rest, hs.le, fun hb => ?_⟩
  have hb : b = true := hb
  subst hb
  exact ⟨Nat.le_refl _, by simp only [↓reduceIte, Nat.sub_self, List.take_zero]⟩

/-- The one walk through the second pass: the allocation bound (C07) is an instance of the invariant, `BodyPost` (C06, C04)
and `BodyEnvelope` (C04) are the postcondition. -/
theorem safe_readBody {O : Oracle} {file outerFrame : Bytes} {oid : List Nat} {r0 : Rd} (hs : Sync file r0) :
    Safe₂ (readBody O oid outerFrame) r0
      (fun res r2 => BodyPost res ∧ BodyEnvelope file outerFrame oid r0 r2 res) := by
  unfold Crv.readBody
  -- the outer header; no queries before the hash is switched on
  apply (safe_readTL (by decide)).next (step_refl (A := fun _ => False) hs)
  intro outer r1 h1 s1 ⟨_, t1⟩
  have hpos1 := t1.pos.trans (Nat.add_assoc _ _ _).symm
  apply (safe_expectTag _ _).next s1
  intro _ _ _ _ ⟨htag, e⟩
  subst e
  simp only [outerLengthChecked, ↓reduceIte]
  apply (safe_endPosition _).next s1
  intro outerEnd _ _ _ ⟨hend, e⟩
  subst e
  apply (safe_lookupHashM _).next s1
  intro hashAlg _ _ _ ⟨hhash, e⟩
  subst e
  apply (safe₂_setHashing true).bind
  intro _ ra e
  obtain ⟨sa, hposa, hha, hfa, hqa⟩ : Sync file ra ∧ ra.pos = r1.pos ∧ ra.hashing = true ∧ ra.hashFrom = r1.pos ∧
      ra.queries = r1.queries := by
    rw [e]; exact ⟨sync_setHashing s1.sync true, rfl, rfl, rfl, rfl⟩
  -- tbsCertList up to the inner AlgorithmIdentifier: still no queries
  apply (safe_readTL (by decide)).next (step_refl (A := fun _ => False) sa)
  intro tbs rb _ sb _
  apply (safe_expectTag _ _).next sb
  intro _ _ _ _ ⟨_, e⟩
  subst e
  apply (safe_endPosition _).next sb
  intro tbsEnd _ _ _ ⟨_, e⟩
  subst e
  apply safe_readVersion.next sb
  intro version rc _ sc _
  apply safe_ite
  · intro _; exact safe_fail .version
  intro _
  apply (safe_readInnerAlg O outerFrame fun _ _ => rfl).next (step_refl (A := fun q => q.kind = .alg) sc.sync)
  intro _ rd _ sd ⟨hfrd, td⟩
  -- the rest of tbsCertList: queries of other kinds only; the steps since `rd` accumulate in `s`
  apply (safe_readStruct (A := NotAlg) .rdn _ notAlg_of_kind).next (step_refl sd.sync)
  intro issuer _ _ s _
  apply (safe_readUtcTime (A := NotAlg) O notAlg_of_kind).next s
  intro thisUpdate _ _ s _
  apply (safe_readNextUpdate (A := NotAlg) O notAlg_of_kind).next s
  intro nextUpdate _ _ s _
  apply (safe_emit _).next s
  intro _ _ _ s _
  apply (safe_readEntryList (A := NotAlg) O tbsEnd notAlg_of_kind).next s
  intro _ _ _ s _
  apply (safe_readExtensions (A := NotAlg) O tbsEnd version notAlg_of_kind).next s
  intro ⟨exts, crlNumber⟩ _ _ s _
  apply (safe_emit _).next s
  intro _ rl _ s _
  apply (safe_checkGate _).next s
  intro _ _ _ sl ⟨hgate, e⟩
  subst e
  apply (safe_get Rd.hashed).next sl
  intro region _ _ _ ⟨hregion, e⟩
  subst e
  apply (safe_get Rd.hashFrom).next sl
  intro hashFrom _ _ _ ⟨hfrom, e⟩
  subst e
  apply (safe₂_setHashing false).bind
  intro _ rm e
  obtain ⟨sm, hposm, hqm⟩ : Sync file rm ∧ rm.pos = rl.pos ∧ rm.queries = rl.queries := by
    rw [e]; exact ⟨sync_setHashing sl.sync false, rfl, rfl⟩
  apply (safe_readStructFrame (A := NotAlg)).ignoreErr.next (step_refl sm)
  intro _ _ _ s _
  apply safe_parseBitString.next s
  intro sig ro _ so hsig
  apply (safe_checkEnvelope _ _).next so
  intro _ _ _ _ ⟨h8, hpose, e⟩
  subst e
  apply safe_pure
  -- collect: the hashed region runs from `hashFrom = r1.pos` to `rl.pos`
  have hl_from : rl.hashFrom = r1.pos := by
    rw [sl.hashFrom, sd.hashFrom, sc.hashFrom]; exact hfa
  obtain ⟨hreg, hhashed⟩ := sl.sync.region (by rw [sl.hashing, sd.hashing, sc.hashing]; exact hha)
  obtain ⟨l1, hl1, ha1⟩ := sl.log
  obtain ⟨l2, hl2, ha2⟩ := so.log
  rw [hregion, hfrom]
  refine ⟨⟨hgate, h8, hsig h8⟩, rfl, hhash, ⟨outer, r1, h1, htag.symm, ?_, ?_⟩, so.sync.le,
    ⟨⟨.alg, rc.pos, outerFrame.length⟩, l1 ++ l2, ?_, rfl, ?_, ?_, ?_, ?_⟩, hhashed, ?_, h8⟩
  · rw [hpose, hend, hpos1]
  · exact hl_from.trans hpos1
  · rw [hl2, hqm, hl1, td.queries, sc.queries_eq, hqa, s1.queries_eq]
    simp only [List.append_assoc, List.cons_append, List.nil_append]
  · show (file.drop rc.pos).take outerFrame.length = outerFrame
    rw [← sc.sync.rest]; exact hfrd.symm
  · intro q hq
    rcases List.mem_append.mp hq with hq | hq
    · exact ha1 q hq
    · exact ha2 q hq
  · show rl.hashFrom ≤ rc.pos
    rw [hl_from, ← hposa]; exact sc.mono
  · show rc.pos + outerFrame.length ≤ rl.hashFrom + rl.hashed.length
    rw [hreg, ← td.pos]; exact sl.mono
  · show rl.hashFrom + rl.hashed.length ≤ ro.pos
    rw [hreg, ← hposm]; exact so.mono

theorem readBody_envelope {O : Oracle} {file outerFrame : Bytes} {oid : List Nat} {r0 r2 : Rd} {res : ReadResult}
    (hs : Sync file r0) (h : readBody O oid outerFrame r0 = .ok res r2) :
    BodyEnvelope file outerFrame oid r0 r2 res :=
  ((safe_readBody hs).keeps stable₂_true trivial h).2.2

/-- C07 (`no_panic`, `alloc_bounded`, `entry_loop_never_stalls`): `safe_prescan` and `safe_readBody` at the invariant
`AllocOK allocBound`. -/
theorem readCRL_safe (O : Oracle) (file : Bytes) :
    (∀ a ∈ (readCRL O file).allocs, a.size ≤ allocBound) ∧
    (match (readCRL O file).outcome with | .panic => False | .err e => e ≠ .stalled | .ok _ => True) := by
  unfold Crv.readCRL
  have h1 := safe_prescan (r := { rest := file }) O rfl (fun _ _ => trivial) _ (stable_allocOK _ anyQuery) (allocOK_init file)
  cases hp : prescan O { rest := file } with
  | err e r => rw [hp] at h1; exact h1
  | panic r => rw [hp] at h1; exact h1.elim
  | ok p r1 =>
    obtain ⟨oid, frame⟩ := p
    rw [hp] at h1
    simp only
    have h2 := safe_readBody (O := O) (oid := oid) (outerFrame := frame) (sync_init file) _ stable₂_allocOK (allocOK_init file)
    have happ : ∀ r2 : Rd, AllocOK allocBound r2 → ∀ a ∈ r1.allocs ++ r2.allocs, a.size ≤ allocBound := by
      intro r2 h a ha
      rcases List.mem_append.mp ha with ha | ha
      · exact h1.1 a ha
      · exact h a ha
    cases hb : readBody O oid frame { rest := file } with
    | ok res r2 => rw [hb] at h2; exact ⟨happ r2 h2.1, trivial⟩
    | err e r2 => rw [hb] at h2; exact ⟨happ r2 h2.1, h2.2⟩
    | panic r2 => rw [hb] at h2; exact h2.elim

/-- C06 `critical_gate`, C04 whole-octet signature. -/
theorem readCRL_post {O : Oracle} {file : Bytes} {res : ReadResult} (hok : (readCRL O file).outcome = .ok res) :
    BodyPost res := by
  obtain ⟨oid, f, r1, r2, _, hb, _, _⟩ := readCRL_ok_inv hok
  exact ((safe_readBody (sync_init file)).keeps stable₂_true trivial hb).2.1

/-! `Tr` (from a synchronised state a parser makes a `Step`) and `Quiet` (a parser changes only the ghost allocation and event
logs), with their rules. Every parser proved `Safe` is `Tr` (`SafeFor.tr`, by `stable_step`); `safe_readBody` above takes its
`Step`s through `SafeFor.next` and does not go through them. -/

def Tr (file : Bytes) (A : Query → Prop) (m : RdM α) : Prop :=
  ∀ r, Sync file r →
    match m r with
    | .ok _ r' => Step file A r r'
    | .err _ r' => Step file A r r'
    | .panic _ => True

def Quiet (m : RdM α) : Prop :=
  ∀ r, match m r with
    | .ok _ r' => SameCore r r'
    | .err _ r' => SameCore r r'
    | .panic _ => True

theorem Step.weaken {file : Bytes} {A A' : Query → Prop} {r r' : Rd} (h : Step file A r r') (hA : ∀ q, A q → A' q) :
    Step file A' r r' := by
  obtain ⟨l, hl, ha⟩ := h.log
  exact ⟨h.sync, h.mono, h.hashing, h.hashFrom, l, hl, fun q hq => hA q (ha q hq)⟩

theorem tr_weaken {file : Bytes} {A A' : Query → Prop} {m : RdM α} (h : Tr file A m) (hA : ∀ q, A q → A' q) :
    Tr file A' m := by
  intro r hs
  have := h r hs
  cases hres : m r with
  | ok a r' => simp only [hres] at this ⊢; exact this.weaken hA
  | err e r' => simp only [hres] at this ⊢; exact this.weaken hA
  | panic r' => trivial

theorem SafeFor.tr {m : RdM α} {Q : Rd → α → Rd → Prop} (h : ∀ {r}, Safe B A m r (Q r)) (file : Bytes) : Tr file A m := by
  intro r hs
  have := h _ (stable_step B file A r) (step_refl hs)
  cases hres : m r with
  | ok a r' => rw [hres] at this; exact this.1
  | err e r' => rw [hres] at this; exact this.1
  | panic r' => trivial

theorem SameCore.trans {r r' r'' : Rd} (h1 : SameCore r r') (h2 : SameCore r' r'') : SameCore r r'' :=
  ⟨h2.rest.trans h1.rest, h2.pos.trans h1.pos, h2.hashing.trans h1.hashing, h2.hashed.trans h1.hashed,
   h2.hashFrom.trans h1.hashFrom, h2.queries.trans h1.queries⟩

theorem quiet_pure (a : α) : Quiet (pure a : RdM α) := fun r => SameCore.refl r

theorem quiet_fail (e : Err) : Quiet (fail e : RdM α) := fun r => SameCore.refl r

theorem quiet_bind {m : RdM α} {f : α → RdM β} (hm : Quiet m) (hf : ∀ a, Quiet (f a)) : Quiet (m >>= f) := by
  intro r
  have h1 := hm r
  simp only [Bind.bind, RdM.bind]
  cases hres : m r with
  | ok a r' =>
    simp only [hres] at h1 ⊢
    have h2 := hf a r'
    cases hres2 : f a r' with
    | ok b r'' => simp only [hres2] at h2 ⊢; exact h1.trans h2
    | err e r'' => simp only [hres2] at h2 ⊢; exact h1.trans h2
    | panic r'' => trivial
  | err e r' => simp only [hres] at h1 ⊢; exact h1
  | panic r' => trivial

theorem quiet_ite {c : Prop} [Decidable c] {m₁ m₂ : RdM α} (h₁ : Quiet m₁) (h₂ : Quiet m₂) :
    Quiet (if c then m₁ else m₂) := by
  split <;> assumption

theorem quiet_state {f : Rd → Rd} {g : Rd → α} (h : ∀ r, SameCore r (f r)) : Quiet (fun r => Res.ok (g r) (f r)) :=
  fun r => h r

theorem quiet_getHashed : Quiet getHashed := fun r => SameCore.refl r
theorem quiet_getHashFrom : Quiet getHashFrom := fun r => SameCore.refl r

theorem quiet_lookupHashM (oid : List Nat) : Quiet (lookupHashM oid) := by
  unfold Crv.lookupHashM
  cases lookupHash oid with
  | none => exact quiet_fail _
  | some h => exact quiet_pure _

end Crv
