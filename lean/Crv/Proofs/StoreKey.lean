import Crv.Key
import Crv.Proofs.ListSplit
/-!
Keys of the stores (`Crv/Key.lean`) are injective. `decVal` is a left inverse of `decNatF`, whence `decimal_inj`; '_' is no byte
of `decimal z`, so the last '_' splits a key (`split_unique`), whence `key_inj`.
-/
namespace Crv

instance (b : UInt8) : Decidable (IsDigit b) := by unfold IsDigit; infer_instance

theorem digit_toNat {d : Nat} (h : d < 10) : (digit d).toNat = 48 + d := by
  rw [digit, UInt8.toNat_ofNat']
  exact Nat.mod_eq_of_lt (by omega)

theorem digit_isDigit {d : Nat} (h : d < 10) : IsDigit (digit d) := by
  unfold IsDigit
  rw [digit_toNat h]
  omega

theorem decNatF_isDigit (f n : Nat) (b : UInt8) (h : b ∈ decNatF f n) : IsDigit b := by
  fun_induction decNatF f n with
  | case1 => nomatch h
  | case2 _ _ h10 => exact List.mem_singleton.mp h ▸ digit_isDigit h10
  | case3 _ _ _ ih =>
    exact (List.mem_append.mp h).elim ih fun h => List.mem_singleton.mp h ▸ digit_isDigit (Nat.mod_lt _ (by decide))

/-- Value of a digit string. -/
def decVal (bs : List UInt8) : Nat := bs.foldl (fun a b => 10 * a + (b.toNat - 48)) 0

theorem decVal_snoc (bs : List UInt8) (b : UInt8) : decVal (bs ++ [b]) = 10 * decVal bs + (b.toNat - 48) := by
  simp [decVal, List.foldl_append]

theorem decVal_decNatF (f n : Nat) (h : n < f) : decVal (decNatF f n) = n := by
  fun_induction decNatF f n with
  | case1 => omega
  | case2 _ _ h10 => simp [decVal, digit_toNat h10]
  | case3 _ _ _ ih =>
    rw [decVal_snoc, ih (by omega), digit_toNat (Nat.mod_lt _ (by decide)), Nat.add_sub_cancel_left, Nat.div_add_mod]

theorem decNat_inj {a b : Nat} (h : decNat a = decNat b) : a = b := by
  have := congrArg decVal h
  rwa [decNat, decNat, decVal_decNatF _ _ (Nat.lt_succ_self a), decVal_decNatF _ _ (Nat.lt_succ_self b)] at this

theorem decNat_ne_nil (n : Nat) : decNat n ≠ [] := by
  unfold decNat decNatF
  split <;> simp

theorem decNat_isDigit (n : Nat) (b : UInt8) (h : b ∈ decNat n) : IsDigit b := decNatF_isDigit _ _ b h

/-- **`big.Int.String()` is injective**: the digits give back the absolute value, and only a negative number
starts with '-'. -/
theorem decimal_inj {a b : Int} (h : decimal a = decimal b) : a = b := by
  have nd : ∀ n, (45 : UInt8) ∉ decNat n := fun n hm => absurd (decNat_isDigit n _ hm) (by decide)
  unfold decimal at h
  split at h <;> split at h
  · next ha hb =>
    rw [Int.eq_neg_natAbs_of_nonpos (Int.le_of_lt ha), Int.eq_neg_natAbs_of_nonpos (Int.le_of_lt hb),
      decNat_inj (List.cons.inj h).2]
  · exact absurd (h ▸ List.mem_cons_self) (nd _)
  · exact absurd (h ▸ List.mem_cons_self) (nd _)
  · next ha hb =>
    rw [← Int.natAbs_of_nonneg (Int.not_lt.mp ha), ← Int.natAbs_of_nonneg (Int.not_lt.mp hb), decNat_inj h]

theorem decimal_ne_nil (z : Int) : decimal z ≠ [] := by
  unfold decimal
  split
  · simp
  · exact decNat_ne_nil _

/-- Every byte of `decimal z` is '-' or a digit. -/
theorem decimal_bytes (z : Int) (b : UInt8) (h : b ∈ decimal z) : b = 45 ∨ IsDigit b := by
  unfold decimal at h
  split at h
  · exact (List.mem_cons.mp h).imp_right (decNat_isDigit _ b)
  · exact .inr (decNat_isDigit _ b h)

/-- The separator '_' does not occur in `decimal z`. -/
theorem sep_not_mem_decimal (z : Int) : (95 : UInt8) ∉ decimal z :=
  fun h => absurd (decimal_bytes z 95 h) (by decide)

theorem keySep_eq : Generated.Store.keySep = [95] := rfl

theorem key_eq (i : List UInt8) (s : Int) : key i s = i ++ 95 :: decimal s := by
  simp [key, keySep_eq]

/-- **Key injectivity**: the issuer string may contain '_' itself, but the decimal part cannot, so the last
'_' splits the key uniquely. -/
theorem key_inj {i₁ i₂ : List UInt8} {s₁ s₂ : Int} (h : key i₁ s₁ = key i₂ s₂) : i₁ = i₂ ∧ s₁ = s₂ := by
  rw [key_eq, key_eq] at h
  exact (split_unique (sep_not_mem_decimal s₁) (sep_not_mem_decimal s₂) h).imp_right decimal_inj

theorem key_inj_iff {i₁ i₂ : List UInt8} {s₁ s₂ : Int} : key i₁ s₁ = key i₂ s₂ ↔ i₁ = i₂ ∧ s₁ = s₂ :=
  ⟨key_inj, fun ⟨a, b⟩ => by rw [a, b]⟩

/-- **Entry keys never equal a reserved key** (string level): an entry key ends in '-' or a digit, and none of the
reserved keys, regenerated from the source, does. -/
theorem key_ne_reserved (i : List UInt8) (s : Int) : ∀ r ∈ reservedKeys, key i s ≠ r := by
  have hres : ∀ r ∈ reservedKeys, ∀ c ∈ r.getLast?, ¬(c = 45 ∨ IsDigit c) := by decide
  intro r hr h
  cases hl : (decimal s).getLast? with
  | none => exact decimal_ne_nil s (List.getLast?_eq_none_iff.mp hl)
  | some c =>
    have : (key i s).getLast? = some c := by simp [key, List.getLast?_append, hl]
    exact hres r hr c (h ▸ this) (decimal_bytes s c (List.mem_of_getLast? hl))

theorem reservedKeys_nodup : reservedKeys.Nodup := by decide

theorem CollisionFree.subset {ks ks' : List (List UInt8)} (h : CollisionFree ks) (hs : ∀ k ∈ ks', k ∈ ks) :
    CollisionFree ks' := fun a ha b hb => h a (hs a ha) b (hs b hb)

/-- Under collision-freedom equal hashed keys mean the same (issuer, serial). -/
theorem hkey_key_inj {ks : List (List UInt8)} (hc : CollisionFree ks) {i₁ i₂ : List UInt8} {s₁ s₂ : Int}
    (h₁ : key i₁ s₁ ∈ ks) (h₂ : key i₂ s₂ ∈ ks) (h : hkey (key i₁ s₁) = hkey (key i₂ s₂)) :
    i₁ = i₂ ∧ s₁ = s₂ := key_inj (hc _ h₁ _ h₂ h)

-- sanity: the model agrees with Go on concrete values
example : decimal 0 = [48] := by decide +kernel
example : decimal (-15) = [45, 49, 53] := by decide +kernel
example : decimal 1234567890123 = [49,50,51,52,53,54,55,56,57,48,49,50,51] := by decide +kernel
example : key [67, 78, 61, 95] 7 = [67, 78, 61, 95, 95, 55] := by decide +kernel

end Crv
