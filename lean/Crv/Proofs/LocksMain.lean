import Crv.Proofs.Locks
/-!
Deadlock freedom from one strict order of lock classes (`progress`, `no_deadlock`) and race freedom from the
lockset discipline (`race_free`), for every system of lock programs, on the invariants of `Crv.Proofs.Locks`.
-/
namespace Crv.Locks

/-! ### progress -/

theorem rank_le_max (S : Sys) (l : Nat) : S.rank l ≤ S.lockRank.foldr max 0 := by
  unfold Sys.rank
  generalize S.lockRank = L
  induction L generalizing l with
  | nil => exact Nat.le_refl 0
  | cons a L ih =>
    cases l with
    | zero => exact Nat.le_max_left ..
    | succ k => exact Nat.le_trans (ih k) (Nat.le_max_right ..)

theorem pendingFrom_true {S : Sys} {lid : Inst} {i : Nat} :
    ∀ (j : Nat) (ts : List Thread), pendingFrom S lid i j ts = true →
      ∃ t ∈ ts, wantsW S t lid = true := by
  intro j ts h
  fun_induction pendingFrom S lid i j ts with
  | case1 => cases h
  | case2 j t ts ih =>
    simp only [Bool.or_eq_true, Bool.and_eq_true] at h
    rcases h with h | h
    · exact ⟨t, List.mem_cons_self .., h.2⟩
    · obtain ⟨t', ht', hw⟩ := ih h
      exact ⟨t', List.mem_cons_of_mem _ ht', hw⟩

theorem wantsW_true {S : Sys} {t : Thread} {lid : Inst} (h : wantsW S t lid = true) :
    ∃ n l, S.node t.prog t.pc = some n ∧ n.instr = .acq l .w ∧ S.lockInst l t.chk t.cur = lid := by
  revert h
  fun_cases wantsW S t lid
  case case1 n hn l hi => exact fun h => ⟨n, l, hn, hi, beq_iff_eq.mp h⟩
  all_goals nofun

theorem stuck_thread_cases {S : Sys} {c : Config} (hno : ∀ i, strictEnabled S c i = false) {t : Thread} {n : Node}
    (ht : t ∈ c) (hn : S.node t.prog t.pc = some n) :
    n.instr = .ret ∨ ∃ l m, n.instr = .acq l m ∧ (free c (S.lockInst l t.chk t.cur) m = false ∨
      m = .r ∧ ∃ tw ∈ c, wantsW S tw (S.lockInst l t.chk t.cur) = true) := by
  obtain ⟨i, hi⟩ := List.mem_iff_getElem?.mp ht
  have h := hno i
  unfold strictEnabled at h
  rw [hi] at h; simp only [hn] at h
  split at h
  · exact .inl ‹_›
  · exact .inr ⟨_, _, ‹_›, .inl h⟩
  · rw [Bool.and_eq_false_iff, Bool.not_eq_false'] at h
    exact .inr ⟨_, _, ‹_›, h.imp_right fun hp => ⟨rfl, pendingFrom_true 0 c hp⟩⟩
  · cases h

def Requested (S : Sys) (c : Config) (l : Nat) : Prop :=
  ∃ t ∈ c, ∃ n m, S.node t.prog t.pc = some n ∧ n.instr = .acq l m

section stuck
variable {S : Sys} {c : Config} (hno : ∀ i, strictEnabled S c i = false)
include hno

theorem requested_is_held {t : Thread} (ht : t ∈ c) {n : Node} (hn : S.node t.prog t.pc = some n) {l : Nat} {m : Mode}
    (hi : n.instr = .acq l m) : ∃ t2 ∈ c, ∃ x ∈ t2.held, x.1 = S.lockInst l t.chk t.cur := by
  rcases stuck_thread_cases hno ht hn with hr | ⟨l', m', hi', hf | ⟨_, tw, htw, hw⟩⟩
  · rw [hi] at hr; cases hr
  · rw [hi] at hi'; cases hi'; exact held_of_not_free hf
  · rw [hi] at hi'; cases hi'
    -- the pending writer is not enabled either
    obtain ⟨nw, lw, hnw, hiw, hlw⟩ := wantsW_true hw
    rcases stuck_thread_cases hno htw hnw with hr | ⟨l', m', hi', hf | ⟨hm, _⟩⟩
    · rw [hiw] at hr; cases hr
    · rw [hiw] at hi'; cases hi'; rw [hlw] at hf; exact held_of_not_free hf
    · rw [hiw] at hi'; cases hi'; cases hm

variable (hc : S.consistent = true) (ho : S.ordered = true) (hinv : Inv S c)
include hc ho hinv

theorem holder_requests_higher {t : Thread} (ht : t ∈ c) {x : Inst × Mode} (hx : x ∈ t.held) :
    ∃ l, Requested S c l ∧ S.rank x.1.cls < S.rank l := by
  obtain ⟨n, hn, hh⟩ := threadOk_iff.mp (hinv t ht)
  rw [hh] at hx
  obtain ⟨y, hy, rfl⟩ := List.mem_map.mp hx
  rw [Sys.resolve, lockInst_cls]
  rcases stuck_thread_cases hno ht hn with hr | ⟨l, m, hi, _⟩
  · rw [consistent_ret hc hn hr] at hy; cases hy
  · exact ⟨l, ⟨t, ht, n, m, hn, hi⟩, ordered_node ho hn hi y hy⟩

theorem not_requested (l : Nat) : ¬ Requested S c l := by
  -- ranks are bounded, and a request leads to a request of higher rank
  suffices ∀ d l, S.lockRank.foldr max 0 < S.rank l + d → ¬ Requested S c l from
    this (S.lockRank.foldr max 0 + 1) l (by omega)
  intro d
  induction d with
  | zero => exact fun l h _ => absurd (rank_le_max S l) (Nat.not_le.mpr h)
  | succ d ih =>
    intro l h ⟨t, ht, n, m, hn, hi⟩
    obtain ⟨t2, ht2, x, hx, hxe⟩ := requested_is_held hno ht hn hi
    obtain ⟨l', hw', hr⟩ := holder_requests_higher hno hc ho hinv ht2 hx
    rw [hxe, lockInst_cls] at hr
    exact ih l' (by omega) hw'

end stuck

/-- **progress.** If the `held` annotations are consistent (in particular every path releases what
it acquires) and all nested acquisitions respect one strict order of lock classes, then in every
reachable configuration in which some thread is not finished some thread is enabled, even under the
strictest reading of Go's RWMutex (readers held back by pending writers): no deadlock, for any
number of threads, any number of checker instances and entries, and any schedule. -/
theorem progress {S : Sys} (hc : S.consistent = true) (ho : S.ordered = true) {c : Config}
    (hr : Reachable S c) (hu : Unfinished S c) : ∃ i, strictEnabled S c i = true := by
  false_or_by_contra
  rename_i hne
  have hno (i : Nat) : strictEnabled S c i = false := by simpa using fun h => hne ⟨i, h⟩
  have hinv := reachable_inv hc hr
  obtain ⟨t, ht, hfin⟩ := hu
  obtain ⟨n, hn, _⟩ := hinv t ht
  rcases stuck_thread_cases hno ht hn with hr | ⟨l, m, hi, _⟩
  · simp [Thread.finished, hn, hr] at hfin
  · exact not_requested hno hc ho hinv l ⟨t, ht, n, m, hn, hi⟩

theorem strictEnabled_step {S : Sys} (hw : S.wf = true) (hc : S.consistent = true) {c : Config}
    (hinv : Inv S c) {i : Nat} (he : strictEnabled S c i = true) : ∃ c', Step S c c' := by
  unfold strictEnabled at he
  split at he
  · cases he
  next t hi =>
  split at he
  · cases he
  next n hn =>
  obtain ⟨n0, hn0, hh⟩ := threadOk_iff.mp (hinv t (List.mem_of_getElem? hi))
  rw [hn] at hn0; cases hn0
  obtain ⟨s, hs⟩ := wf_succ_nonempty hw hn (fun hr => by rw [hr] at he; cases he)
  suffices ∃ r, stepThread S c t n s 0 = some r from
    this.elim fun r hr => ⟨_, i, 0, 0, exec_some.mpr ⟨t, n, s, r.1, r.2, hi, hn, hs, hr, rfl⟩⟩
  unfold stepThread
  cases hins : n.instr with
  | acq l m =>
    rw [hins] at he
    have hf : free c (S.lockInst l t.chk t.cur) m = true := by
      cases m with
      | w => exact he
      | r => exact (Bool.and_eq_true_iff.mp he).1
    exact ⟨_, if_pos hf⟩
  | rel l m =>
    -- the annotation check lets a program release only what the annotation lists
    obtain ⟨h', htr, _⟩ := consistent_node hc hn
    rw [hins] at htr
    exact ⟨_, if_pos (hh ▸ List.mem_map_of_mem (f := S.resolve t.chk t.cur) (transfer_rel htr).1)⟩
  | rd _ | wr _ | nop | pick => exact ⟨_, rfl⟩
  | spawn q =>
    obtain ⟨P, hP⟩ := wf_spawn hw hn hins
    simp only [hP]; exact ⟨_, rfl⟩
  | ret => rw [hins] at he; cases he

/-- No deadlock: a reachable configuration with an unfinished thread has a successor. -/
theorem no_deadlock {S : Sys} (hw : S.wf = true) (hc : S.consistent = true) (ho : S.ordered = true)
    {c : Config} (hr : Reachable S c) (hu : Unfinished S c) : ∃ c', Step S c c' := by
  obtain ⟨i, he⟩ := progress hc ho hr hu
  exact strictEnabled_step hw hc (reachable_inv hc hr) he

/-! ### race freedom -/

/-- The shared access a node performs: (field class, whether it writes, the annotation). -/
def Node.access (n : Node) : Option (Nat × Bool × List (Nat × Mode)) :=
  match n.instr with
  | .rd f => some (f, false, n.held)
  | .wr f => some (f, true, n.held)
  | _ => none

/-- All shared accesses of the programs. `Sys.locksetField` speaks of nothing else (`locksetField_eq`), and is
evaluated that way: a third of the nodes are accesses. -/
def Sys.accesses (S : Sys) : List (Nat × Bool × List (Nat × Mode)) :=
  S.progs.flatMap fun P => P.nodes.filterMap Node.access

theorem mem_accesses {S : Sys} {p pc : Nat} {n : Node} (hn : S.node p pc = some n)
    {a : Nat × Bool × List (Nat × Mode)} (ha : n.access = some a) : a ∈ S.accesses :=
  (node_mem hn).elim fun P hP => List.mem_flatMap.mpr ⟨P, hP.1, List.mem_filterMap.mpr ⟨n, hP.2, ha⟩⟩

theorem Sys.locksetField_eq (S : Sys) (g f : Nat) : S.locksetField g f =
    (scopeLe (S.lscope g) (S.fscope f) && (!(S.accesses.any fun a => a.2.1 && a.1 == f) ||
      S.accesses.all fun a => a.1 != f ||
        bif a.2.1 then a.2.2.any (fun x => x.1 == g && x.2 == .w) else a.2.2.any (fun x => x.1 == g))) := by
  unfold Sys.locksetField Sys.hasWrite Sys.accesses
  simp only [List.any_flatMap, List.all_flatMap, List.any_filterMap, List.all_filterMap]
  congr 3
  · congr 1; funext P; congr; funext n; unfold Node.access
    cases n.instr <;> first | rfl | exact Bool.eq_iff_iff.mpr (by simp)
  · funext P; congr; funext n; unfold Node.access; cases n.instr <;> rfl

/-- Under the lockset discipline an access of a field class that is written somewhere holds the guard, a write
exclusively. -/
theorem lockset_access {S : Sys} {g f : Nat} (hl : S.locksetField g f = true) {w : Bool} {h h' : List (Nat × Mode)}
    (ha : (f, w, h) ∈ S.accesses) (hw : (f, true, h') ∈ S.accesses) : ∃ x ∈ h, x.1 = g ∧ (w = true → x.2 = .w) := by
  rw [Sys.locksetField_eq] at hl
  have hwr : (S.accesses.any fun a => a.2.1 && a.1 == f) = true := List.any_eq_true.mpr ⟨_, hw, by simp⟩
  have h1 := List.all_eq_true.mp
    ((Bool.or_eq_true_iff.mp (Bool.and_eq_true_iff.mp hl).2).resolve_left (by simp [hwr])) _ ha
  simp only [bne_self_eq_false, Bool.false_or] at h1
  cases w <;> obtain ⟨x, hx, hg⟩ := List.any_eq_true.mp h1
  · exact ⟨x, hx, beq_iff_eq.mp hg, nofun⟩
  · exact ⟨x, hx, beq_iff_eq.mp (Bool.and_eq_true_iff.mp hg).1, fun _ => beq_iff_eq.mp (Bool.and_eq_true_iff.mp hg).2⟩

theorem access_some {S : Sys} {t : Thread} {x : Inst} {w : Bool} (ha : access S t = some (x, w)) :
    ∃ n f, S.node t.prog t.pc = some n ∧ n.access = some (f, w, n.held) ∧ x = S.fieldInst f t.chk t.cur := by
  revert ha
  unfold Node.access
  fun_cases access S t
  case case1 n hn f hi => rintro ⟨⟩; exact ⟨n, f, hn, by rw [hi], rfl⟩
  case case2 n hn f hi => rintro ⟨⟩; exact ⟨n, f, hn, by rw [hi], rfl⟩
  all_goals nofun

/-- What a thread about to access field class `f` holds, given the lockset discipline. -/
theorem access_holds {S : Sys} {g f : Nat} (hl : S.locksetField g f = true) {t : Thread} (hok : ThreadOk S t)
    {x : Inst} {w : Bool} (ha : access S t = some (x, w)) (hx : x.cls = f)
    {h' : List (Nat × Mode)} (hwr : (f, true, h') ∈ S.accesses) :
    x = S.fieldInst f t.chk t.cur ∧
      ∃ m, (S.lockInst g t.chk t.cur, m) ∈ t.held ∧ (w = true → m = .w) := by
  obtain ⟨n, hn, hh⟩ := threadOk_iff.mp hok
  obtain ⟨n', f', hn', hacc, rfl⟩ := access_some ha
  rw [hn] at hn'; cases hn'
  rw [fieldInst_cls] at hx; subst hx
  obtain ⟨y, hy, rfl, hyw⟩ := lockset_access hl (mem_accesses hn hacc) hwr
  exact ⟨rfl, y.2, hh ▸ List.mem_map_of_mem hy, hyw⟩

/-- A thread about to write a field and another about to access the same instance would both hold the
guard's instance, the writer exclusively. -/
theorem no_conflict {S : Sys} {g : Nat} {c : Config} (hinv : Inv S c) (hex : Excl c) {i j : Nat} {ti tj : Thread}
    {x : Inst} {wj : Bool} (hl : S.locksetField g x.cls = true) (hij : i ≠ j) (hi : c[i]? = some ti)
    (hj : c[j]? = some tj) (hai : access S ti = some (x, true)) (haj : access S tj = some (x, wj)) : False := by
  obtain ⟨h', hwr⟩ : ∃ h', (x.cls, true, h') ∈ S.accesses := by
    obtain ⟨n, f, hn, hacc, rfl⟩ := access_some hai
    rw [fieldInst_cls]; exact ⟨_, mem_accesses hn hacc⟩
  obtain ⟨hxi, mi, hmi, hwi⟩ := access_holds hl (hinv ti (List.mem_of_getElem? hi)) hai rfl hwr
  obtain ⟨hxj, mj, hmj, _⟩ := access_holds hl (hinv tj (List.mem_of_getElem? hj)) haj rfl hwr
  have hlid : S.lockInst g ti.chk ti.cur = S.lockInst g tj.chk tj.cur :=
    inst_scopeLe (Bool.and_eq_true_iff.mp hl).1 (hxi.symm.trans hxj)
  rw [← heldOf_of_getElem? hi] at hmi
  rw [← heldOf_of_getElem? hj] at hmj
  have := (hex i j hij _ hmi _ hmj hlid).1
  rw [hwi rfl] at this; cases this

/-- **race_free.** If field class `f` obeys the lockset discipline with guard class `g` (every
access of a written field holds the guard, writes hold it exclusively, and the guard instance is
determined by the field instance), then no reachable configuration has two distinct threads both
about to perform conflicting accesses to the same instance of `f`. -/
theorem race_free {S : Sys} (hc : S.consistent = true) {g f : Nat} (hl : S.locksetField g f = true)
    {c : Config} (hr : Reachable S c) : ¬ ConflictEnabled S c f := by
  intro ⟨i, j, ti, tj, x, wi, wj, hij, hi, hj, hai, haj, hxf, hw⟩
  subst hxf
  rcases hw with rfl | rfl
  · exact no_conflict (reachable_inv hc hr) (reachable_excl hr) hl hij hi hj hai haj
  · exact no_conflict (reachable_inv hc hr) (reachable_excl hr) hl hij.symm hj hi haj hai

/-! ### replaying a schedule

The executable helpers of `Crv.Locks` tied to the semantics: a schedule replayed from `startThread`s ends in a
`Reachable` configuration (C13's non-vacuity example is built that way), and a true `conflictNow` there is a real
`ConflictEnabled` (unused: the soundness half of a race-witness replay). -/

theorem runSched_reachable {S : Sys} : ∀ (sched : List (Nat × Nat × Nat)) (c c' : Config),
    Reachable S c → runSched S c sched = some c' → Reachable S c' := by
  intro sched c c' hr h
  fun_induction runSched S c sched with
  | case1 c => cases h; exact hr
  | case2 c i ch pv rest c1 he ih => exact ih (Reachable.step hr ⟨i, ch, pv, he⟩) h
  | case3 => cases h

theorem init_start {S : Sys} (ps : List (Nat × Nat × Nat)) (h : ∀ p ∈ ps, p.1 < S.progs.length) :
    Init S (ps.map fun p => startThread S p.1 p.2.1 p.2.2) := by
  intro t ht
  obtain ⟨p, hp, rfl⟩ := List.mem_map.mp ht
  have hlt := h p hp
  refine ⟨rfl, S.progs[p.1], by simp [startThread, hlt], ?_⟩
  simp [startThread, List.getD, hlt]

theorem conflictNow_sound {S : Sys} {c : Config} {i j f : Nat} (h : conflictNow S c i j f = true) :
    ConflictEnabled S c f := by
  unfold conflictNow at h
  obtain ⟨hij, h⟩ := Bool.and_eq_true_iff.mp h
  split at h
  · next ti tj hi hj =>
    split at h
    · next x wi y wj hai haj =>
      simp only [Bool.and_eq_true, beq_iff_eq, Bool.or_eq_true] at h
      obtain ⟨⟨rfl, hf⟩, hw⟩ := h
      exact ⟨i, j, ti, tj, x, wi, wj, bne_iff_ne.mp hij, hi, hj, hai, haj, hf, hw⟩
    · cases h
  · cases h

end Crv.Locks
