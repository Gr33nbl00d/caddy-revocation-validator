import Crv.Proofs.StoreRefine
/-!
The disk backend against the memory backend (C18, C09). Through an open, fault-free handle on an existing directory
(`Ldb.Holds`) the disk backend reads and writes exactly as the memory backend does on the same content, and in every
other state its lookup is an error; along a run the handle stays in that state (`Ldb.Live`, `Ldb.Live.step`). Nothing of
this depends on hashed keys being distinct. At the end: `Repository.checkCrl`, the loop of `IsRevoked` and
`Repository.Close` with their regenerated outcome tables evaluated (C09).
-/
namespace Crv.Store
open Crv

-- The `if` forms are for `simp` through a whole operation: with the inequalities at hand as arguments they decide the path
-- comparisons and leave the file system a chain of `setDir`/`setLock`; the `_same` forms are for single steps in terms.
-- The `_ne` forms say what `setDir`/`setLock` do at another path; no proof below needs them.
theorem Disk.setDir_dirs (d : Disk) (p q : Path) (c : Option Assoc) :
    (d.setDir p c).dirs q = if q = p then c else d.dirs q := rfl

theorem Disk.setLock_locked (d : Disk) (p q : Path) (b : Bool) :
    (d.setLock p b).locked q = if q = p then b else d.locked q := rfl

@[simp] theorem Disk.setDir_dirs_same (d : Disk) (p : Path) (c : Option Assoc) : (d.setDir p c).dirs p = c := if_pos rfl

theorem Disk.setDir_dirs_ne (d : Disk) {p q : Path} (c : Option Assoc) (h : q ≠ p) : (d.setDir p c).dirs q = d.dirs q :=
  if_neg h

@[simp] theorem Disk.setDir_locked (d : Disk) (p : Path) (c : Option Assoc) : (d.setDir p c).locked = d.locked := rfl
@[simp] theorem Disk.setDir_next (d : Disk) (p : Path) (c : Option Assoc) : (d.setDir p c).next = d.next := rfl
@[simp] theorem Disk.setLock_dirs (d : Disk) (p : Path) (b : Bool) : (d.setLock p b).dirs = d.dirs := rfl
@[simp] theorem Disk.setLock_next (d : Disk) (p : Path) (b : Bool) : (d.setLock p b).next = d.next := rfl
@[simp] theorem Disk.setLock_locked_same (d : Disk) (p : Path) (b : Bool) : (d.setLock p b).locked p = b := if_pos rfl
theorem Disk.setLock_locked_ne (d : Disk) {p q : Path} (b : Bool) (h : q ≠ p) : (d.setLock p b).locked q = d.locked q :=
  if_neg h

theorem Disk.setDir_setDir (d : Disk) (p : Path) (c c' : Option Assoc) : (d.setDir p c).setDir p c' = d.setDir p c' := by
  simp only [Disk.setDir]
  congr
  funext q
  split <;> rfl

theorem Disk.setDir_self (d : Disk) (p : Path) : d.setDir p (d.dirs p) = d := by
  cases d
  simp only [Disk.setDir]
  congr
  funext q
  split
  · next h => rw [h]
  · rfl

/-- The regenerated outcome table of the disk lookup, evaluated: "not revoked" for `notFound` alone. -/
theorem Ldb.lookup_eq (dec : Kind → Val → Bool) (d : Disk) (h : Ldb) (i : List UInt8) (n : Int) :
    h.lookup dec d i n = match h.dbGet d (hkey (key i n)) with
      | .notFound => .absent
      | .found v => if dec .entry v then .revoked v else .error
      | _ => .error := by
  rw [Ldb.lookup]
  cases h.dbGet d (hkey (key i n)) <;> rfl

structure Ldb.Holds (d : Disk) (h : Ldb) (m : Assoc) : Prop where
  isOpen : h.isOpen = true
  fault : h.fault = none
  dirs : d.dirs h.path = some m

namespace Ldb.Holds
variable {d : Disk} {h : Ldb} {m : Assoc} (H : h.Holds d m)
include H

theorem dbGet (hk : HKey) : h.dbGet d hk = match aget m hk with | none => .notFound | some v => .found v := by
  simp only [Ldb.dbGet, H.isOpen, H.fault, H.dirs, Bool.not_true, Bool.false_eq_true, ↓reduceIte]
  cases aget m hk <;> rfl

theorem lookup (dec : Kind → Val → Bool) (i : List UInt8) (s : Int) :
    h.lookup dec d i s = MapStore.lookup dec { map := some m } i s := by
  rw [Ldb.lookup_eq, H.dbGet, MapStore.lookup_eq, MapStore.rawGet_some]
  cases aget m (hkey (key i s)) <;> rfl

theorem slot (dec : Kind → Val → Bool) (k : AKey) : h.slot dec d k = MapStore.slot dec { map := some m } k := by
  rw [Ldb.slot, H.dbGet, MapStore.slot, MapStore.rawGet_some]
  cases aget m (hkey k.str) <;> rfl

theorem read (dec : Kind → Val → Bool) (k : AKey) : h.read dec d k = MapStore.read dec { map := some m } k := by
  cases k <;> simp only [Ldb.read, MapStore.read, H.lookup, H.slot]

theorem isEmpty : h.isEmpty d = (aget m (hkey Generated.Store.metaKey)).isNone := by
  rw [Ldb.isEmpty, H.dbGet]
  cases aget m (hkey Generated.Store.metaKey) <;> rfl

theorem put (k : List UInt8) (v : Val) : h.put d k v = (d.setDir h.path (some ((hkey k, v) :: m)), .ok) := by
  simp [Ldb.put, Ldb.dbPut, H.isOpen, H.fault, H.dirs]

theorem setDir (m' : Assoc) : h.Holds (d.setDir h.path (some m')) m' := ⟨H.isOpen, H.fault, Disk.setDir_dirs_same ..⟩

end Ldb.Holds

theorem Ldb.Holds.fill {h : Ldb} : ∀ (ws : List (AKey × Val)) {d : Disk} {m : Assoc}, h.Holds d m →
    h.fill d ws = d.setDir h.path (some (afill m ws))
  | [], d, _, H => (H.dirs ▸ Disk.setDir_self d h.path).symm
  | w :: ws, _, _, H => by
    rw [Ldb.fill, H.put, Holds.fill ws (H.setDir _), Disk.setDir_setDir]
    rfl

theorem Ldb.Holds.fill_holds {d : Disk} {h : Ldb} {m : Assoc} (H : h.Holds d m) (ws : List (AKey × Val)) :
    h.Holds (h.fill d ws) (afill m ws) := H.fill ws ▸ H.setDir _

theorem Ldb.lookup_error (dec : Kind → Val → Bool) {d : Disk} {h : Ldb} (hn : ∀ m, ¬ h.Holds d m) (i : List UInt8)
    (n : Int) : h.lookup dec d i n = .error := by
  rw [Ldb.lookup_eq, Ldb.dbGet]
  cases ho : h.isOpen with
  | false => rfl
  | true => cases hf : h.fault with
    | some f => rfl
    | none => cases hd : d.dirs h.path with
      | none => rfl
      | some m => exact absurd ⟨ho, hf, hd⟩ (hn m)

/-- The handle is the open, fault-free, locked store of `BasePath/ident` with content `m`; temporary names from the
counter on are unused. No step needs `locked` (whatever tests the LOCK closes the handle first, which clears it): the field
makes `Live` with `Rel` the same as `LInv` (`LInv.iff_live`). -/
structure Ldb.Live (d : Disk) (h : Ldb) (m : Assoc) : Prop extends h.Holds d m where
  path : h.path = .final h.ident
  locked : d.locked h.path = true
  unused : ∀ n, d.next ≤ n → d.dirs (.temp n) = none

theorem Ldb.fresh_live (ident : Nat) : (Ldb.fresh ident).2.Live (Ldb.fresh ident).1 [] where
  isOpen := rfl
  fault := rfl
  dirs := Disk.setDir_dirs_same ..
  path := rfl
  locked := Disk.setLock_locked_same ..
  unused _ _ := rfl

/-- `Live` is an invariant of the model's operations, not of the file-system steps inside them (`Update` unlocks, moves
away and deletes the handle's own directory on its way): each operation is run once on a live state, which leaves the
file system a chain of `setDir`/`setLock` on the one before, and `Live` is read off that chain. -/
theorem Ldb.Live.step (dec : Kind → Val → Bool) {d : Disk} {h : Ldb} {m : Assoc} (L : h.Live d m) (op : Op) :
    ∃ d', h.step dec d op = (d', h, (MapStore.step dec { map := some m } op).2) ∧ h.Live d' (contentAfter m op) := by
  -- `h` is replaced by its four fields as `Live` fixes them: the record `reopen` creates anew and the one `Update` reopens
  -- are then literally `h`
  obtain ⟨p, ident, o, f⟩ := h
  obtain rfl : p = .final ident := L.path
  obtain rfl : o = true := L.isOpen
  obtain rfl : f = none := L.fault
  have hm := L.dirs
  have hu := L.unused
  cases op with
  | w k v =>
    exact ⟨_, by simp only [Ldb.step, L.put]; rfl,
      { L with toHolds := L.toHolds.setDir _
               unused := fun n hn => by simp [Disk.setDir_dirs, hu n hn] }⟩
  | rd k => exact ⟨d, by simp only [Ldb.step, L.read, MapStore.step], L⟩
  | reopen =>
    refine ⟨_, by simp [Ldb.step, Ldb.create, Ldb.close, hm]; exact ⟨rfl, rfl⟩, ?_⟩
    exact { L with dirs := Disk.setDir_dirs_same ..
                   locked := Disk.setLock_locked_same ..
                   unused := fun n hn => by simp [Disk.setDir_dirs, hu n hn] }
  | replace ws =>
    -- the temporary store is created on an unused name and holds what the writes put there
    have h0 := hu d.next (Nat.le_refl _)
    have O : Ldb.Holds ((({ d with next := d.next + 1 } : Disk).setDir (.temp d.next) (some [])).setLock (.temp d.next) true)
        ⟨.temp d.next, ident, true, none⟩ [] := ⟨rfl, rfl, Disk.setDir_dirs_same ..⟩
    refine ⟨_, by simp [Ldb.step, Ldb.create, h0, O.fill ws, Ldb.update, Ldb.close, Disk.setDir_dirs,
                        Disk.setLock_locked, hm]; exact ⟨rfl, rfl⟩, ?_⟩
    exact { isOpen := rfl, fault := rfl, path := rfl
            dirs := by simp [Disk.setDir_dirs, contentAfter]
            locked := by simp
            unused := fun n (hn : d.next + 1 + 1 ≤ n) => by
              have h1 : n ≠ d.next := by omega
              have h2 : n ≠ d.next + 1 := by omega
              simp [Disk.setDir_dirs, h1, h2, hu n (by omega)] }

theorem ldb_sim (dec : Kind → Val → Bool) : ∀ (ops : List Op) {d : Disk} {h : Ldb} {m : Assoc}, h.Live d m →
    ∃ d', runLdb dec d h ops = ((d', h), (runMap dec { map := some m } ops).2) ∧ h.Live d' (ops.foldl contentAfter m)
  | [], d, _, _, L => ⟨d, rfl, L⟩
  | op :: ops, _, _, m, L => by
    obtain ⟨d1, hs, L1⟩ := L.step dec op
    obtain ⟨d', hr, L'⟩ := ldb_sim dec ops L1
    exact ⟨d', by simp only [runLdb, runMap, hs, hr, ← MapStore.step_fst dec m op], L'⟩

/-- `∃ m, h.Live d m ∧ Rel K m a` with the fields spelled out (`LInv.iff_live`). No theorem is stated with it: the simulation
and C18 keep the two layers apart (`Live` here, `Rel` in `StoreRefine`). -/
structure LInv (K : List (List UInt8)) (d : Disk) (h : Ldb) (a : Abs) : Prop where
  path : h.path = .final h.ident
  isOpen : h.isOpen = true
  fault : h.fault = none
  locked : d.locked h.path = true
  content : ∃ m, d.dirs h.path = some m ∧ Rel K m a
  fresh : ∀ n, d.next ≤ n → d.dirs (.temp n) = none

theorem LInv.iff_live {K : List (List UInt8)} {d : Disk} {h : Ldb} {a : Abs} :
    LInv K d h a ↔ ∃ m, h.Live d m ∧ Rel K m a :=
  ⟨fun inv => let ⟨m, hm, hr⟩ := inv.content
    ⟨m, ⟨⟨inv.isOpen, inv.fault, hm⟩, inv.path, inv.locked, inv.fresh⟩, hr⟩,
   fun ⟨m, L, hr⟩ => ⟨L.path, L.isOpen, L.fault, L.locked, ⟨m, L.dirs, hr⟩, L.unused⟩⟩

/-! ### `Repository.checkCrl`, the loop of `Repository.IsRevoked`, `Repository.Close` -/

theorem checkCrl_some (dec : Kind → Val → Bool) (d : Disk) (e : Entry) (i : List UInt8) (n : Int) :
    checkCrl dec d (some e) i n =
      if e.closed then .error
      else if e.loaded then
        match e.store with
        | none => .error
        | some st =>
          match st.lookup dec d i n with
          | .error => .error
          | .revoked v => .revoked v
          | .absent => .notRevoked
      else .notRevoked := by
  simp only [checkCrl, show (Generated.Store.checkOnClosed != .skip) = true from rfl, Bool.and_true]
  rfl

theorem checkCrl_ne_panic (dec : Kind → Val → Bool) (d : Disk) (e : Option Entry) (i : List UInt8) (s : Int) :
    checkCrl dec d e i s ≠ .panic := by
  cases e with
  | none => nofun
  | some e =>
    rw [checkCrl_some]
    cases e.closed
    · cases e.loaded
      · nofun
      · cases e.store with
        | none => nofun
        | some st => dsimp only; cases st.lookup dec d i s <;> nofun
    · nofun

theorem walk_cons (dec : Kind → Val → Bool) (d : Disk) (i : List UInt8) (n : Int) (e : Option Entry)
    (rest : List (Option Entry)) :
    walk dec d i n (e :: rest) = match checkCrl dec d e i n with
      | .notRevoked => walk dec d i n rest
      | c => c := by
  rw [walk]
  cases checkCrl dec d e i n <;> rfl

theorem closeEntry_some (d : Disk) (e : Entry) :
    ∃ d' e', closeEntry d (some e) = some (d', some e') ∧ e'.closed = true := by
  unfold closeEntry
  simp only [Generated.Store.closeIdempotent, Generated.Store.closeNilStoreGuard, Generated.Store.closeDropsEntry, Generated.Store.closeMarksClosed,
    Bool.true_and, Bool.or_true]
  cases hc : e.closed
  · cases e.store <;> exact ⟨_, _, rfl, rfl⟩
  · exact ⟨_, _, rfl, hc⟩

theorem repoClose_marks (d : Disk) (es : List (Option Entry)) (d' : Disk) (es' : List (Option Entry))
    (h : repoClose d es = some (d', es')) :
    es'.length = es.length ∧ ∀ e' ∈ es', ∃ e, e' = some e ∧ e.closed = true := by
  induction es generalizing d d' es' with
  | nil =>
    obtain ⟨-, rfl⟩ := Prod.mk.inj (Option.some.inj h)
    exact ⟨rfl, fun _ h => nomatch h⟩
  | cons e rest ih =>
    cases e with
    | none => simp only [repoClose, closeEntry, reduceCtorEq] at h
    | some e =>
      obtain ⟨d1, e1, h1, hcl⟩ := closeEntry_some d e
      cases hr : repoClose d1 rest with
      | none => simp only [repoClose, h1, hr, reduceCtorEq] at h
      | some q =>
        obtain ⟨hlen, hall⟩ := ih d1 q.1 q.2 hr
        simp only [repoClose, h1, hr, Option.some.injEq, Prod.mk.injEq] at h
        obtain ⟨-, rfl⟩ := h
        exact ⟨congrArg (· + 1) hlen, fun e' he' => (List.mem_cons.mp he').elim (fun h => ⟨e1, h, hcl⟩) (hall e')⟩

end Crv.Store
