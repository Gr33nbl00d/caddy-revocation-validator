import Crv.Disk
import Crv.Proofs.PathsOps
namespace Crv.Disk
open Crv.Paths Crv.Generated

theorem readWrites_keys (d : Doc) :
    (readWrites d).map (·.1) = DbKey.metaInfo :: d.serials.map DbKey.entry ++ [DbKey.extMeta] := by
  simp [readWrites, headWrites, List.map_map, Function.comp_def]

theorem get_stagedImage (sc : Scn) (d : Doc) (wl sg : Bool) (k : DbKey) (hk : k ≠ .signer) :
    (stagedImage sc d wl sg).get k = (writeAll (img0 sc wl) (readWrites d)).get k := by
  fun_cases stagedImage sc d wl sg
  · rw [DbImage.get_put, if_neg hk]; rfl
  · rfl

/-- A complete image carries the meta record … -/
theorem stagedImage_loaded (sc : Scn) (d : Doc) (wl sg : Bool) : ((stagedImage sc d wl sg).get .metaInfo).isSome = true := by
  rw [get_stagedImage _ _ _ _ _ (by decide), isSome_get_writeAll, readWrites_keys]
  simp

/-- … and lists exactly the serials of its document. -/
theorem stagedImage_listed (sc : Scn) (d : Doc) (wl sg : Bool) (x : Nat) :
    listed (stagedImage sc d wl sg) x = true ↔ x ∈ d.serials := by
  rw [listed, get_stagedImage _ _ _ _ (.entry x) DbKey.noConfusion, isSome_get_writeAll, readWrites_keys]
  cases wl <;> simp [img0, DbImage.get, DbImage.put]

theorem fullImage_eq (sc : Scn) (d : Doc) (sg : Bool) : stagedImage sc d true sg = fullImage sc.loc d sg := rfl

theorem get_restart (F : Facts) (id : Name) (fs : Fs) :
    Fs.get (restart F id fs) = (Step.openStore id).applyF (sweepF F (Fs.get fs)) := by
  simp [restart, get_apply, get_sweep]

theorem restart_congr (F : Facts) (id : Name) (fs fs' : Fs)
    (h : ∀ m, matchesTemp F m = false → Fs.get fs m = Fs.get fs' m) : Fs.get (restart F id fs) = Fs.get (restart F id fs') := by
  rw [get_restart, get_restart]
  congr 1
  funext m
  cases hm : matchesTemp F m
  · simp [sweepF, hm, h m hm]
  · simp [sweepF, hm]

theorem restart_ne (F : Facts) (id : Name) (fs : Fs) (n : Name) (hne : n ≠ id) :
    Fs.get (restart F id fs) n = if matchesTemp F n then none else Fs.get fs n := by
  rw [get_restart, applyF_frame _ _ _ (by simpa [Step.names] using hne)]
  rfl

theorem restart_live (F : Facts) (id : Name) (fs : Fs) (hid : matchesTemp F id = false) :
    Fs.get (restart F id fs) id = match Fs.get fs id with | none => some (.dir []) | some x => some x := by
  rw [get_restart]
  have hs : sweepF F (Fs.get fs) id = Fs.get fs id := by simp [sweepF, hid]
  simp only [Step.applyF, hs]
  cases h : Fs.get fs id with
  | none => simp
  | some x => simp only []; exact hs.trans h

theorem image_restart (F : Facts) (id : Name) (fs : Fs) (hid : matchesTemp F id = false) :
    image (restart F id fs) id = match Fs.get fs id with | none => some [] | some (.dir img) => some img | some .file => none := by
  unfold image
  rw [restart_live F id fs hid]
  cases h : Fs.get fs id with
  | none => rfl
  | some x => cases x <;> rfl

theorem loaded_iff (fs : Fs) (id : Name) :
    loaded fs id = true ↔ ∃ img, image fs id = some img ∧ (img.get .metaInfo).isSome = true := by
  unfold loaded imageLoaded image
  cases Fs.get fs id with
  | none => simp
  | some x => cases x <;> simp

end Crv.Disk
