import Crv.Store
import Crv.Proofs.StoreKey
/-!
The memory backend against the abstract map (C18). Both backends keep one association list on hashed keys, their
*content*: the memory backend is that list, the disk backend keeps it in a directory (`StoreLdb`). What an operation
does to the content is `contentAfter`; the content represents an abstract state (`Rel`) as long as hashed keys do not collide.
-/
namespace Crv.Store
open Crv

theorem AKey.str_reserved_mem (k : AKey) (h : ∀ i s, k ≠ .ent i s) : k.str ∈ reservedKeys := by
  cases k <;> simp [AKey.str, reservedKeys]
  exact absurd rfl (h _ _)

theorem AKey.str_inj {a b : AKey} (h : a.str = b.str) : a = b := by
  cases a with
  | ent i s => cases b with
    | ent => obtain ⟨rfl, rfl⟩ := key_inj h; rfl
    | _ => exact absurd h (key_ne_reserved i s _ (AKey.str_reserved_mem _ (fun _ _ => nofun)))
  | _ => cases b with
    | ent i s => exact absurd h.symm (key_ne_reserved i s _ (AKey.str_reserved_mem _ (fun _ _ => nofun)))
    | _ => first | rfl | exact absurd h (by decide)

theorem Abs.get_set (a : Abs) (k k' : AKey) (v : Val) :
    (a.set k v).get k' = if k = k' then some v else a.get k' := by
  cases k with
  | ent i s => cases k' with
    | ent i' s' => simp [Abs.set, Abs.get]
    | _ => rfl
  | _ => cases k' <;> rfl

def lastWrite (k : AKey) (init : Option Val) (ws : List (AKey × Val)) : Option Val :=
  ws.foldl (fun acc w => if w.1 = k then some w.2 else acc) init

theorem Abs.fill_get : ∀ (ws : List (AKey × Val)) (a : Abs) (k : AKey),
    (a.fill ws).get k = lastWrite k (a.get k) ws
  | [], _, _ => rfl
  | w :: ws, a, k => (Abs.fill_get ws (a.set w.1 w.2) k).trans (by rw [Abs.get_set]; rfl)

/-- Content after a list of writes. -/
def afill (m : Assoc) (ws : List (AKey × Val)) : Assoc := ws.foldl (fun m w => (hkey w.1.str, w.2) :: m) m

/-- A hashed key that is bound or gets written is bound afterwards (possibly to the value of a colliding later
write). -/
theorem aget_afill_isSome : ∀ (ws : List (AKey × Val)) (m : Assoc) (hk : HKey),
    ((aget m hk).isSome ∨ ∃ w ∈ ws, hkey w.1.str = hk) → (aget (afill m ws) hk).isSome
  | [], _, _, h => h.elim id fun ⟨_, hw, _⟩ => nomatch hw
  | w :: ws, m, hk, h => by
    refine aget_afill_isSome ws _ hk ?_
    rw [aget]
    by_cases he : hkey w.1.str = hk
    · exact .inl (by rw [if_pos he]; rfl)
    · rw [if_neg he]
      exact h.imp_right fun ⟨w', hw', hk'⟩ => ⟨w', (List.mem_cons.mp hw').resolve_left fun e => he (e ▸ hk'), hk'⟩

def contentAfter (m : Assoc) : Op → Assoc
  | .w k v => (hkey k.str, v) :: m
  | .replace ws => afill [] ws
  | _ => m

theorem MapStore.rawGet_some (m : Assoc) (k : List UInt8) : MapStore.rawGet { map := some m } k = aget m (hkey k) := rfl

/-- The regenerated outcome table of the memory lookup, evaluated. -/
theorem MapStore.lookup_eq (dec : Kind → Val → Bool) (s : MapStore) (i : List UInt8) (n : Int) :
    s.lookup dec i n = match s.rawGet (key i n) with
      | none => .absent
      | some v => if dec .entry v then .revoked v else .error := rfl

theorem MapStore.lookup_ne_absent (dec : Kind → Val → Bool) {m : Assoc} {i : List UInt8} {n : Int}
    (h : (aget m (hkey (key i n))).isSome) : MapStore.lookup dec { map := some m } i n ≠ .absent := by
  rw [MapStore.lookup_eq, MapStore.rawGet_some]
  cases hg : aget m (hkey (key i n)) with
  | none => rw [hg] at h; exact nomatch h
  | some v => dsimp only; split <;> nofun

theorem MapStore.isEmpty_new : MapStore.new.isEmpty = true := rfl

theorem MapStore.fill_some (m : Assoc) (ws : List (AKey × Val)) :
    MapStore.fill { map := some m } ws = { map := some (afill m ws) } := by
  induction ws generalizing m with
  | nil => rfl
  | cons w ws ih => exact ih _

/-- `Update` does not look at the store it replaces. -/
theorem MapStore.step_replace (dec : Kind → Val → Bool) (s : MapStore) (ws : List (AKey × Val)) :
    (s.step dec (.replace ws)).1 = { map := some (afill [] ws) } := by
  simp only [MapStore.step, MapStore.new, MapStore.fill_some, MapStore.update, Option.getD_some]

theorem MapStore.step_fst (dec : Kind → Val → Bool) (m : Assoc) (op : Op) :
    (MapStore.step dec { map := some m } op).1 = { map := some (contentAfter m op) } := by
  cases op with
  | replace ws => exact MapStore.step_replace ..
  | _ => rfl

/-- The concrete association `m` (on hashed keys) represents the abstract state `a` on the key strings `K`. -/
def Rel (K : List (List UInt8)) (m : Assoc) (a : Abs) : Prop :=
  ∀ k : AKey, k.str ∈ K → aget m (hkey k.str) = a.get k

theorem rel_empty (K : List (List UInt8)) : Rel K [] Abs.empty := by
  intro k _
  cases k <;> rfl

theorem rel_put {K : List (List UInt8)} (hc : CollisionFree K) {m : Assoc} {a : Abs} (hr : Rel K m a)
    (k : AKey) (hk : k.str ∈ K) (v : Val) : Rel K ((hkey k.str, v) :: m) (a.set k v) := by
  intro k' hk'
  rw [Abs.get_set, aget, ← hr k' hk']
  -- equal hashes of two key strings in `K` mean equal keys
  exact ite_congr (propext ⟨fun he => AKey.str_inj (hc _ hk _ hk' he), fun he => he ▸ rfl⟩) (fun _ => rfl) (fun _ => rfl)

theorem rel_fill {K : List (List UInt8)} (hc : CollisionFree K) :
    ∀ (ws : List (AKey × Val)) {m : Assoc} {a : Abs}, Rel K m a → (∀ w ∈ ws, w.1.str ∈ K) →
      Rel K (afill m ws) (a.fill ws)
  | [], _, _, hr, _ => hr
  | w :: ws, _, _, hr, hk =>
    rel_fill hc ws (rel_put hc hr w.1 (hk w List.mem_cons_self) w.2) (fun w' hw' => hk w' (List.mem_cons_of_mem _ hw'))

/-- Reads of the memory backend agree with the specification on represented keys. -/
theorem MapStore.read_eq (dec : Kind → Val → Bool) {K : List (List UInt8)} {m : Assoc} {a : Abs} (hr : Rel K m a)
    (k : AKey) (hk : k.str ∈ K) : MapStore.read dec { map := some m } k = a.read dec k := by
  have h := hr k hk
  cases k with
  | ent i s =>
    simp only [MapStore.read, Abs.read, MapStore.lookup_eq, MapStore.rawGet, Abs.lookup,
      show aget m (hkey (key i s)) = a.ent i s from h]
    rfl
  | _ => simp only [MapStore.read, Abs.read, MapStore.slot, MapStore.rawGet, Abs.slot, h]

theorem map_step (dec : Kind → Val → Bool) {K : List (List UInt8)} (hc : CollisionFree K) {m : Assoc} {a : Abs}
    (hr : Rel K m a) (op : Op) (hk : ∀ k ∈ opKeys op, k ∈ K) :
    Rel K (contentAfter m op) (a.step dec op).1 ∧ (MapStore.step dec { map := some m } op).2 = (a.step dec op).2 := by
  cases op with
  | w k v => exact ⟨rel_put hc hr k (hk _ List.mem_cons_self) v, rfl⟩
  | rd k => exact ⟨hr, MapStore.read_eq dec hr k (hk _ List.mem_cons_self)⟩
  | replace ws => exact ⟨rel_fill hc ws (rel_empty K) fun w hw => hk _ (List.mem_map_of_mem hw), rfl⟩
  | reopen => exact ⟨hr, rfl⟩

theorem map_sim (dec : Kind → Val → Bool) {K : List (List UInt8)} (hc : CollisionFree K) :
    ∀ (ops : List Op) (m : Assoc) (a : Abs), Rel K m a → (∀ k ∈ ops.flatMap opKeys, k ∈ K) →
      (runMap dec { map := some m } ops).2 = (runAbs dec a ops).2
  | [], _, _, _, _ => rfl
  | op :: ops, m, a, hr, hk => by
    rw [List.flatMap_cons] at hk
    obtain ⟨hr', ho⟩ := map_step dec hc hr op fun k h => hk k (List.mem_append_left _ h)
    have ih := map_sim dec hc ops _ _ hr' fun k h => hk k (List.mem_append_right _ h)
    simp only [runMap, runAbs, ← MapStore.step_fst dec m op] at ih ⊢
    rw [ih, ho]

end Crv.Store
