import Crv.Enc
import Crv.Proofs.ReaderSafe
/-!
Deterministic big-step judgments on the *core* of the reader state (everything except the ghost
allocation and query logs), used for the round-trip theorem of C06.
`Det m c a c'`: from any state whose core is `c`, `m` succeeds with value `a` in a state whose core is `c'`.
`Reads m seg a`: the form almost every such fact has — `m` consumes exactly the segment `seg` in front of it.
`c₀.cur P T E` (consumed, unread, emitted): the form in which every lemma that looks at the position or past its own
segment writes its states.
-/
namespace Crv
open Crv.Generated

structure Core where
  rest : Bytes
  pos : Nat
  hashing : Bool
  hashed : Bytes
  hashFrom : Nat
  events : List Event

def Rd.core (r : Rd) : Core := ⟨r.rest, r.pos, r.hashing, r.hashed, r.hashFrom, r.events⟩

def Det (m : RdM α) (c : Core) (a : α) (c' : Core) : Prop :=
  ∀ r : Rd, r.core = c → ∃ r', m r = .ok a r' ∧ r'.core = c'

def Core.consume (c : Core) (n : Nat) : Core :=
  { c with rest := c.rest.drop n, pos := c.pos + n,
           hashed := if c.hashing then c.hashed ++ c.rest.take n else c.hashed }

theorem det_pure (a : α) (c : Core) : Det (pure a : RdM α) c a c := by
  intro r hr; exact ⟨r, rfl, hr⟩

theorem det_bind {m : RdM α} {f : α → RdM β} {c c' c'' : Core} {a : α} {b : β}
    (hm : Det m c a c') (hf : Det (f a) c' b c'') : Det (m >>= f) c b c'' := by
  intro r hr
  obtain ⟨r', h1, h2⟩ := hm r hr
  obtain ⟨r'', h3, h4⟩ := hf r' h2
  refine ⟨r'', ?_, h4⟩
  simp only [Bind.bind, RdM.bind, h1, h3]

theorem consume_zero (c : Core) : c.consume 0 = c := by
  cases c with
  | mk rest pos hashing hashed hashFrom events =>
    simp only [Core.consume, List.drop_zero, Nat.add_zero, List.take_zero, List.append_nil, ite_self]

theorem det_readN (c : Core) (n : Nat) (h : n ≤ c.rest.length) :
    Det (readN (n : Int)) c (c.rest.take n) (c.consume n) := by
  intro r hr
  have hrest : r.rest = c.rest := by rw [← hr]; rfl
  unfold Crv.readN
  rw [if_neg (Int.not_lt.mpr (Int.natCast_nonneg n)), Int.toNat_natCast, if_neg (by rw [hrest]; exact Nat.not_lt.mpr h), hrest]
  refine ⟨_, rfl, ?_⟩
  rw [← hr]
  rfl

theorem det_peekN (c : Core) (n off : Nat) (h : n + off ≤ c.rest.length) :
    Det (peekN n off) c ((c.rest.drop off).take n) c := by
  intro r hr
  have hrest : r.rest = c.rest := by rw [← hr]; rfl
  unfold Crv.peekN
  rw [if_neg (by rw [hrest]; exact Nat.not_lt.mpr h), hrest]
  refine ⟨_, rfl, ?_⟩
  rw [← hr]; rfl

theorem det_fn (f : Rd → Rd) (g : Rd → α) (c c' : Core) (a : α)
    (h : ∀ r, r.core = c → (f r).core = c' ∧ g r = a) : Det (fun r => Res.ok (g r) (f r)) c a c' := by
  intro r hr
  obtain ⟨h1, h2⟩ := h r hr
  exact ⟨f r, by simp only [h2], h1⟩

theorem det_emit (c : Core) (e : Event) : Det (emit e) c () { c with events := c.events ++ [e] } :=
  det_fn _ _ c _ () fun r hr => ⟨by rw [← hr]; rfl, rfl⟩

theorem det_logQuery (c : Core) (k : QKind) (n : Nat) : Det (logQuery k n) c () c :=
  det_fn _ _ c c () fun _ hr => ⟨hr, rfl⟩

theorem det_getPos (c : Core) : Det getPos c c.pos c :=
  det_fn _ _ c c _ fun r hr => ⟨hr, by rw [← hr]; rfl⟩

theorem det_getHashed {c : Core} {v : Bytes} (h : c.hashed = v) : Det getHashed c v c :=
  det_fn _ _ c c _ fun r hr => ⟨hr, by rw [← h, ← hr]; rfl⟩

theorem det_getHashFrom {c : Core} {v : Nat} (h : c.hashFrom = v) : Det getHashFrom c v c :=
  det_fn _ _ c c _ fun r hr => ⟨hr, by rw [← h, ← hr]; rfl⟩

theorem det_setHashing (c : Core) (b : Bool) :
    Det (setHashing b) c () { c with hashing := b, hashed := if b then [] else c.hashed,
                                      hashFrom := if b then c.pos else c.hashFrom } :=
  det_fn _ _ c _ () fun r hr => ⟨by rw [← hr]; rfl, rfl⟩

theorem det_expectTag (c : Core) (t : UInt8) : Det (expectTag t t) c () c := by
  intro r hr
  exact ⟨r, by simp only [Crv.expectTag, ↓reduceIte, Pure.pure, RdM.pure], hr⟩

theorem det_endPosition {c : Core} {len e : Nat} (he : c.pos + len = e) (h : e < 2 ^ 63) :
    Det (endPosition len) c e c := by
  intro r hr
  have hp : r.pos = c.pos := by rw [← hr]; rfl
  refine ⟨r, ?_, hr⟩
  unfold Crv.endPosition
  rw [hp, he, if_pos]
  subst he
  exact ⟨Nat.lt_of_le_of_lt (Nat.le_add_left _ _) h, by omega⟩

theorem det_checkEnvelope (c : Core) (sig : BitStr) (outerEnd : Nat) (h8 : sig.bitLen % 8 = 0) (hp : c.pos = outerEnd) :
    Det (checkEnvelope sig outerEnd) c () c := by
  intro r hr
  have hp' : r.pos = outerEnd := by rw [← hp, ← hr]; rfl
  refine ⟨r, ?_, hr⟩
  unfold Crv.checkEnvelope
  simp only [sigUnusedBitsRejected, outerLengthChecked, h8, bne_self_eq_false, Bool.and_false, Bool.false_eq_true,
    ↓reduceIte, Bind.bind, RdM.bind, Crv.getPos, hp', Pure.pure, RdM.pure]

theorem det_checkGate (es : Option (List Ext)) (h : ∀ l, es = some l → criticalGate l = true) (c : Core) :
    Det (checkGate es) c () c := by
  cases es with
  | none => exact det_pure _ _
  | some l =>
    show Det (if criticalGate l = true then _ else _) c () c
    rw [if_pos (h l rfl)]
    exact det_pure _ _

theorem det_lookupHashM (oid : List Nat) (h : HashAlg) (hh : lookupHash oid = some h) (c : Core) :
    Det (lookupHashM oid) c h c := by
  unfold Crv.lookupHashM
  simp only [hh]
  exact det_pure _ _

theorem b8_toNat (n : Nat) : (b8 n).toNat = n % 256 := by
  simp [b8, UInt8.toNat_ofNat']

theorem b8_mod (n : Nat) : b8 (n % 256) = b8 n :=
  UInt8.toNat_inj.mp (by rw [b8_toNat, b8_toNat, Nat.mod_mod])

theorem b8_short (n : Nat) (h : n < 128) : b8 n &&& 0x80 = 0 := by
  apply UInt8.toNat_inj.mp
  rw [UInt8.toNat_and, b8_toNat, Nat.mod_eq_of_lt (Nat.lt_trans h (by decide))]
  -- bit 7 of a number below 2^7 is clear
  show n &&& 2 ^ 7 = 0
  apply Nat.eq_of_testBit_eq
  intro i
  rw [Nat.testBit_and, Nat.zero_testBit, Nat.testBit_two_pow]
  by_cases hi : 7 = i
  · subst hi; rw [Nat.testBit_lt_two_pow h]; rfl
  · simp [hi]

theorem beNat_cons (b : UInt8) (bs : Bytes) (acc : Nat) :
    List.foldl (fun acc b => acc * 256 + b.toNat) acc (b :: bs) =
    List.foldl (fun acc b => acc * 256 + b.toNat) (acc * 256 + b.toNat) bs := rfl

theorem beNat_snoc (bs : Bytes) (b : UInt8) : beNat (bs ++ [b]) = beNat bs * 256 + b.toNat := by
  simp [beNat, List.foldl_append]

/-- The `k` low base-256 digits of `n`, most significant first. A long form of `encLen` is the byte `0x80 + k` followed by
`digits k n`; with the number of length bytes a variable, the four size classes need one decoding lemma. -/
def digits : Nat → Nat → Bytes
  | 0, _ => []
  | k + 1, n => digits k (n / 256) ++ [b8 n]

theorem digits_length (k n : Nat) : (digits k n).length = k := by
  induction k generalizing n with
  | zero => rfl
  | succ k ih => rw [digits, List.length_append, ih]; rfl

theorem beNat_digits (k n : Nat) : beNat (digits k n) = n % 256 ^ k := by
  induction k generalizing n with
  | zero => simp [digits, beNat, Nat.mod_one]
  | succ k ih =>
    rw [digits, beNat_snoc, ih, b8_toNat, Nat.pow_succ, Nat.mul_comm (256 ^ k), Nat.mod_mul]
    omega

theorem encLen_short (n : Nat) (h : n < 128) : encLen n = [b8 n] := by
  unfold encLen; rw [if_pos h]

theorem encLen_long (n : Nat) (h128 : ¬ n < 128) :
    ∃ k, 1 ≤ k ∧ k ≤ 4 ∧ (n < 2 ^ 32 → n < 256 ^ k) ∧ encLen n = b8 (0x80 + k) :: digits k n := by
  fun_cases encLen n
  case case1 h => exact absurd h h128
  case case2 h2 => exact ⟨1, by decide, by decide, fun _ => h2, rfl⟩
  case case3 h3 => exact ⟨2, by decide, by decide, fun _ => h3, by simp only [digits, b8_mod]; rfl⟩
  case case4 h4 =>
    exact ⟨3, by decide, by decide, fun _ => h4, by simp only [digits, b8_mod, Nat.div_div_eq_div_mul]; rfl⟩
  case case5 => exact ⟨4, by decide, by decide, id, by simp only [digits, b8_mod, Nat.div_div_eq_div_mul]; rfl⟩

theorem encLen_length_pos (n : Nat) : 1 ≤ (encLen n).length := by
  by_cases h : n < 128
  · rw [encLen_short n h]; exact Nat.le_refl 1
  · obtain ⟨k, _, _, _, he⟩ := encLen_long n h
    rw [he]; exact Nat.succ_le_succ (Nat.zero_le _)

theorem encLen_length_le (n : Nat) : (encLen n).length ≤ 5 := by
  by_cases h : n < 128
  · rw [encLen_short n h]; exact Nat.le_of_ble_eq_true rfl
  · obtain ⟨k, _, hk, _, he⟩ := encLen_long n h
    rw [he, List.length_cons, digits_length]; exact Nat.succ_le_succ hk

theorem encLen_long_first_byte (k : Nat) (h1 : 1 ≤ k) (h4 : k ≤ 4) :
    ¬ (b8 (0x80 + k) &&& 0x80 = 0) ∧ lenFormOk (b8 (0x80 + k)) = true ∧
      (b8 (0x80 + k) &&& lengthCountMask).toNat = k := by
  have : k = 1 ∨ k = 2 ∨ k = 3 ∨ k = 4 := by omega
  rcases this with rfl | rfl | rfl | rfl <;> decide

/-- What `ReadLength` computes from the bytes of `encLen n`: first byte test, count, big-endian value. -/
theorem encLen_cases (n : Nat) (h : n < 2 ^ 32) :
    (∃ b, encLen n = [b] ∧ b &&& 0x80 = 0 ∧ b.toNat = n) ∨
    (∃ b bs, encLen n = b :: bs ∧ ¬ (b &&& 0x80 = 0) ∧ lenFormOk b = true ∧
      (b &&& lengthCountMask).toNat = bs.length ∧ beNat bs = n) := by
  by_cases h1 : n < 128
  · exact .inl ⟨b8 n, encLen_short n h1, b8_short n h1, by rw [b8_toNat]; omega⟩
  · obtain ⟨k, hk1, hk4, hlt, he⟩ := encLen_long n h1
    obtain ⟨f1, f2, f3⟩ := encLen_long_first_byte k hk1 hk4
    exact .inr ⟨_, _, he, f1, f2, by rw [f3, digits_length], by rw [beNat_digits, Nat.mod_eq_of_lt (hlt h)]⟩

theorem tlv_append (tag : UInt8) (x t : Bytes) : tlv tag x ++ t = tag :: (encLen x.length ++ (x ++ t)) := by
  simp only [tlv, List.cons_append, List.append_assoc]

theorem tlv_length (tag : UInt8) (x : Bytes) : (tlv tag x).length = 1 + (encLen x.length).length + x.length := by
  simp only [tlv, List.length_cons, List.length_append]; omega

theorem seqOf_length_pos (x : Bytes) : 1 ≤ (seqOf x).length := Nat.succ_le_succ (Nat.zero_le _)

/-- `c.after seg t` is `c.cur seg t c.events` (`Core.cur`, below), and `cur` is the form to build on: only `det_entryLoop`, for
C17's `entry_loop_carries_only_position`, is stated with `after` directly. -/
def Core.after (c : Core) (seg t : Bytes) : Core :=
  ⟨t, c.pos + seg.length, c.hashing, if c.hashing then c.hashed ++ seg else c.hashed, c.hashFrom, c.events⟩

theorem after_nil (c : Core) (t : Bytes) (h : c.rest = t) : c.after [] t = c := by
  cases c with
  | mk rest pos hashing hashed hashFrom events =>
    simp only at h
    simp only [Core.after, h, List.length_nil, Nat.add_zero, List.append_nil, ite_self]

/-- The state in which `P` has been consumed since state `c₀`, `T` is unread and the consumer has received `E`. A walk
keeps its state in this form: a step moves a segment from the front of `T` to the end of `P`, so no intermediate state
is ever written down, and two positions are compared by comparing the lists whose lengths they are. -/
def Core.cur (c₀ : Core) (P T : Bytes) (E : List Event) : Core := { c₀.after P T with events := E }

theorem cur_pos (c₀ : Core) (P T : Bytes) (E : List Event) : (c₀.cur P T E).pos = c₀.pos + P.length := rfl

theorem cur_consume (c₀ : Core) (P s T : Bytes) (E : List Event) :
    (c₀.cur P (s ++ T) E).consume s.length = c₀.cur (P ++ s) T E := by
  cases c₀ with
  | mk rest pos hashing hashed hashFrom events =>
    simp only [Core.cur, Core.after, Core.consume, List.drop_left, List.take_left, List.length_append, Nat.add_assoc]
    cases hashing <;> simp

/-- `Discard` is not hashed: only while hashing is off (the first pass) does it read a segment like `readN`. -/
theorem det_discard (c₀ : Core) (P s T : Bytes) (E : List Event) (hh : c₀.hashing = false) :
    Det (discard (s.length : Int)) (c₀.cur P (s ++ T) E) () (c₀.cur (P ++ s) T E) := by
  intro r hr
  have hrest : r.rest = s ++ T := congrArg Core.rest hr
  have hhash : r.hashing = false := (congrArg Core.hashing hr).trans hh
  unfold Crv.discard
  rw [if_neg (Int.not_lt.mpr (Int.natCast_nonneg _)), Int.toNat_natCast,
    if_neg (by rw [hrest, List.length_append]; exact Nat.not_lt.mpr (Nat.le_add_right _ _))]
  refine ⟨_, rfl, ?_⟩
  rw [← cur_consume, ← hr]
  simp only [Rd.core, Core.consume, hhash]
  rfl

/-- `m` reads `seg`: wherever the unread input starts with `seg`, `m` consumes exactly `seg` and returns `a`. Only the
segment occurs in the statement, and `Reads.bind` puts two such facts together by appending the segments — which is how
`enc` builds a document, so the lemma about a parser and the definition of what it parses have the same shape. -/
def Reads (m : RdM α) (seg : Bytes) (a : α) : Prop :=
  ∀ (c₀ : Core) (P T : Bytes) (E : List Event), Det m (c₀.cur P (seg ++ T) E) a (c₀.cur (P ++ seg) T E)

theorem reads_of_det {m : RdM α} {a : α} (h : ∀ c, Det m c a c) : Reads m [] a := by
  intro c₀ P T E
  rw [List.append_nil]; exact h _

theorem reads_pure (a : α) : Reads (pure a : RdM α) [] a := reads_of_det (det_pure a)

theorem Reads.bind {m : RdM α} {f : α → RdM β} {s₁ s₂ s : Bytes} {a : α} {b : β}
    (h₁ : Reads m s₁ a) (h₂ : Reads (f a) s₂ b) (hs : s₁ ++ s₂ = s := by rfl) : Reads (m >>= f) s b := by
  subst hs
  intro c₀ P T E
  rw [List.append_assoc, ← List.append_assoc P]
  exact det_bind (h₁ c₀ P _ E) (h₂ c₀ _ T E)

theorem Reads.ignoreErr {m : RdM α} {s : Bytes} {a : α} (h : Reads m s a) : Reads (ignoreErr m) s () :=
  fun c₀ P T E r hr =>
    let ⟨r', h1, h2⟩ := h c₀ P T E r hr
    ⟨r', by simp only [Crv.ignoreErr, h1], h2⟩

theorem reads_readN (seg : Bytes) : Reads (readN (seg.length : Int)) seg seg := by
  intro c₀ P T E
  have := det_readN (c₀.cur P (seg ++ T) E) seg.length (by
    show seg.length ≤ (seg ++ T).length
    rw [List.length_append]; exact Nat.le_add_right _ _)
  rwa [cur_consume, show (c₀.cur P (seg ++ T) E).rest.take seg.length = seg from List.take_left ..] at this

theorem reads_logQuery (k : QKind) (n : Nat) : Reads (logQuery k n) [] () := reads_of_det (det_logQuery · k n)

theorem reads_expectTag (t : UInt8) : Reads (expectTag t t) [] () := reads_of_det (det_expectTag · t)

theorem reads_readU8 (b : UInt8) : Reads readU8 [b] b :=
  (reads_readN [b]).bind (reads_pure b)

theorem det_lenTail_short {b : UInt8} {next : Nat → RdM Bytes} (hb : b &&& 0x80 = 0) (c : Core) :
    Det (lenTail b next) c (b.toNat, 1) c := by
  unfold lenTail; rw [if_pos hb]; exact det_pure _ c

theorem det_lenTail_long {b : UInt8} {next : Nat → RdM Bytes} {bs : Bytes} {c c' : Core} (hb : ¬ b &&& 0x80 = 0)
    (hf : lenFormOk b = true) (hk : (b &&& lengthCountMask).toNat = bs.length) (h : Det (next bs.length) c bs c') :
    Det (lenTail b next) c (beNat bs, bs.length + 1) c' := by
  unfold lenTail
  rw [if_neg hb, hf, hk]
  exact det_bind h (det_pure _ c')

theorem reads_readLen (n : Nat) (hn : n < 2 ^ 32) : Reads readLen (encLen n) (n, (encLen n).length) := by
  rw [readLen_eq]
  rcases encLen_cases n hn with ⟨b, he, hb, hv⟩ | ⟨b, bs, he, hb, hf, hk, hv⟩
  · rw [he, ← hv]
    exact (reads_readU8 b).bind (reads_of_det (det_lenTail_short hb))
  · rw [he, ← hv]
    exact (reads_readU8 b).bind fun c₀ _ T E => det_lenTail_long hb hf hk (reads_readN bs c₀ _ T E)

theorem reads_readTL (tag : UInt8) (n : Nat) (hn : n < 2 ^ 32) :
    Reads readTL (tag :: encLen n) ⟨tag, n, (encLen n).length⟩ :=
  (reads_readU8 tag).bind ((reads_readLen n hn).bind (reads_pure _) (List.append_nil _))

theorem reads_readValue (v : Bytes) (hv : v.length ≤ 81920) : Reads (readValue (some 81920) v.length) v v := by
  show Reads (if v.length > 81920 then _ else _) v v
  rw [if_neg (Nat.not_lt.mpr hv), narrow64_small (Nat.lt_of_le_of_lt hv (by decide))]
  exact reads_readN v

theorem det_peekU8 (c : Core) (off : Nat) (b : UInt8) (t : Bytes) (h : c.rest.drop off = b :: t) :
    Det (peekU8 off) c b c := by
  have hl : 1 + off ≤ c.rest.length := by
    have := congrArg List.length h
    rw [List.length_drop, List.length_cons] at this
    omega
  have h1 := det_peekN c 1 off hl
  rw [h] at h1
  exact det_bind h1 (det_pure b _)

theorem det_peekLen (c : Core) (off n : Nat) (t : Bytes) (hn : n < 2 ^ 32) (h : c.rest.drop off = encLen n ++ t) :
    Det (peekLen off) c (n, (encLen n).length) c := by
  rw [peekLen_eq]
  rcases encLen_cases n hn with ⟨b, he, hb, hv⟩ | ⟨b, bs, he, hb, hf, hk, hv⟩
  · rw [he] at h ⊢
    rw [← hv]
    exact det_bind (det_peekU8 c off b t h) (det_lenTail_short hb c)
  · rw [he] at h ⊢
    rw [← hv]
    refine det_bind (det_peekU8 c off b (bs ++ t) h) (det_lenTail_long hb hf hk ?_)
    have hd : c.rest.drop (off + 1) = bs ++ t := by
      rw [← List.drop_drop, h]; rfl
    have hl : bs.length + (off + 1) ≤ c.rest.length := by
      have := congrArg List.length h
      rw [List.length_drop, List.length_append, List.length_cons] at this
      omega
    have h2 := det_peekN c bs.length (off + 1) hl
    rwa [hd, List.take_left] at h2

theorem det_peekTL (c : Core) (tag : UInt8) (x t : Bytes) (hx : x.length < 2 ^ 32) (h : c.rest = tlv tag x ++ t) :
    Det (peekTL 0) c ⟨tag, x.length, (encLen x.length).length⟩ c := by
  rw [tlv_append] at h
  refine det_bind (det_peekU8 c 0 tag _ h) ?_
  refine det_bind (det_peekLen c (0 + 1) x.length (x ++ t) hx (by rw [h]; rfl)) ?_
  exact det_pure _ _

theorem det_tryPeekTL (c : Core) (tag : UInt8) (x t : Bytes) (hx : x.length < 2 ^ 32) (h : c.rest = tlv tag x ++ t) :
    Det tryPeekTL c (some ⟨tag, x.length, (encLen x.length).length⟩) c := by
  intro r hr
  obtain ⟨r', h1, _⟩ := det_peekTL c tag x t hx h r hr
  exact ⟨r, by simp only [Crv.tryPeekTL, h1], hr⟩

/-- Whatever `peekTL 0` decodes, its tag is the first unread byte. -/
theorem peekTL_tag {r r' : Rd} {tl : TL} (h : peekTL 0 r = .ok tl r') : r.rest.head? = some tl.tag :=
  SafeFor.ok (B := 15) (Q := fun tl _ => r.rest.head? = some tl.tag)
    ((safe_peekU8 0 (by decide)).bind fun _ _ ⟨⟨_, hb⟩, _⟩ =>
      (safe_peekLen _ (Nat.le_refl _)).bind fun ⟨_, _⟩ _ _ => safe_pure (congrArg List.head? hb)) h

section
variable {g : Option TL → Bool} {body : RdM α} {a₀ a : α} {c c' : Core}

/-- An optional element that is absent: the test fails on whatever header could be decoded from an input with this first byte. -/
theorem det_absent (hg : ∀ tl, c.rest.head? = some tl.tag → g (some tl) = false) (hn : g none = false) :
    Det (tryPeekTL >>= fun o => if g o then body else pure a₀) c a₀ c := by
  intro r hr
  subst hr
  refine ⟨r, ?_, rfl⟩
  show RdM.bind tryPeekTL _ r = _
  unfold RdM.bind
  fun_cases tryPeekTL r
  · next tl _ hp => simp only [hg tl (peekTL_tag hp)]; rfl
  · simp only [hn]; rfl

theorem det_present {tag : UInt8} {x t : Bytes} (h : c.rest = tlv tag x ++ t) (hx : x.length < 2 ^ 32)
    (hg : g (some ⟨tag, x.length, (encLen x.length).length⟩) = true) (hb : Det body c a c') :
    Det (tryPeekTL >>= fun o => if g o then body else pure a₀) c a c' :=
  det_bind (det_tryPeekTL c tag x t hx h) (by simp only [hg, ↓reduceIte]; exact hb)

end

theorem reads_readStructFrame (x : Bytes) (hx : x.length ≤ 81920) : Reads readStructFrame (seqOf x) (seqOf x) := by
  intro c₀ P T E
  have h32 : x.length < 2 ^ 32 := Nat.lt_of_le_of_lt hx (by decide)
  refine det_bind (det_peekTL _ 0x30 x T h32 rfl) ?_
  refine det_bind (det_expectTag _ 0x30) ?_
  show Det (if x.length > 81920 then _ else _) _ _ _
  rw [if_neg (Nat.not_lt.mpr hx), narrow64_small (Nat.lt_of_le_of_lt hx (by decide))]
  have hcast : (x.length : Int) + ((encLen x.length).length + 1 : Nat) = (((seqOf x).length : Nat) : Int) := by
    rw [seqOf, tlv_length]; omega
  rw [hcast]
  exact reads_readN (seqOf x) c₀ P T E

theorem reads_decoded (k : QKind) (ok : Bytes → Bool) (f : Bytes) (hok : ok f = true) : Reads (decoded k ok f) [] f :=
  (reads_logQuery _ _).bind (by rw [if_pos hok]; exact reads_pure f)

theorem reads_readStruct (k : QKind) (ok : Bytes → Bool) (x : Bytes) (hx : x.length ≤ 81920) (hok : ok (seqOf x) = true) :
    Reads (readStruct k ok) (seqOf x) (seqOf x) :=
  (reads_readStructFrame x hx).bind (reads_decoded k ok _ hok) (List.append_nil _)

theorem reads_readUtcTime (O : Oracle) (v : Bytes) (hv : v.length ≤ 81920) (hok : O.utcOk v = true) :
    Reads (readUtcTime O) (tlv 23 v) v := by
  refine (reads_readTL 23 v.length (Nat.lt_of_le_of_lt hv (by decide))).bind ?_ (s₂ := v)
  refine (reads_expectTag 23).bind ?_ (s₂ := v)
  exact (reads_readValue v hv).bind (reads_decoded .utc O.utcOk v hok) (List.append_nil v)

theorem reads_parseBitString (s : Bytes) (hs : s.length < 81920) :
    Reads parseBitString (tlv 3 (0 :: s)) ⟨s, s.length * 8⟩ := by
  have hl : ((0 : UInt8) :: s).length ≤ 81920 := hs
  refine (reads_readTL 3 ((0 : UInt8) :: s).length (Nat.lt_of_le_of_lt hl (by decide))).bind ?_ (s₂ := 0 :: s)
  refine (reads_expectTag 3).bind ?_ (s₂ := 0 :: s)
  refine (reads_readValue (0 :: s) hl).bind ?_ (List.append_nil _)
  have hcond : ¬ ((0 : UInt8).toNat > 7 ∨ (s.isEmpty = true ∧ (0 : UInt8).toNat > 0) ∨
      (lastByte ((0 : UInt8) :: s)).toNat % 2 ^ (0 : UInt8).toNat ≠ 0) := by
    simp [Nat.mod_one]
  simp only [hcond, ↓reduceIte]
  exact reads_pure _

theorem reads_readInnerAlg (O : Oracle) (outerFrame x : Bytes) (hx : x.length ≤ 81920)
    (hok : (O.algOid (seqOf x)).isSome = true) (hsame : seqOf x = outerFrame) :
    Reads (readInnerAlg O outerFrame) (seqOf x) () := by
  unfold Crv.readInnerAlg
  simp only [algIdsCompared, ↓reduceIte]
  refine (reads_readStruct .alg _ x hx hok).bind ?_ (List.append_nil _)
  simp only [hsame, ↓reduceIte]
  exact reads_pure _

theorem det_entryLoop_done (O : Oracle) (listEnd : Nat) (c : Core) (h : ¬ c.pos < listEnd) :
    Det (entryLoop O listEnd) c () c := by
  intro r hr
  have hp : r.pos = c.pos := by rw [← hr]; rfl
  exact ⟨r, by rw [entryLoop_eq, hp, if_neg h], hr⟩

theorem det_entryLoop_step (O : Oracle) (listEnd : Nat) {c c₁ c₂ : Core} (hpos : c.pos < listEnd)
    (hbody : Det (entryBody O) c () c₁) (hlt : c₁.rest.length < c.rest.length)
    (hloop : Det (entryLoop O listEnd) c₁ () c₂) : Det (entryLoop O listEnd) c () c₂ := by
  intro r hr
  obtain ⟨r₁, hb, hc₁⟩ := hbody r hr
  obtain ⟨r₂, hl, hc₂⟩ := hloop r₁ hc₁
  have hp : r.pos = c.pos := by rw [← hr]; rfl
  have hlt' : r₁.rest.length < r.rest.length := by
    rw [show r₁.rest = c₁.rest by rw [← hc₁]; rfl, show r.rest = c.rest by rw [← hr]; rfl]; exact hlt
  exact ⟨r₂, by rw [entryLoop_eq, hp, if_pos hpos, hb]; simp only [hlt', ↓reduceIte, hl], hc₂⟩

theorem det_entryLoop_cur (O : Oracle) (l : List Bytes) (hl : ∀ e ∈ l, e.length ≤ 81920 ∧ O.entryOk (seqOf e) = true)
    (c₀ : Core) (T : Bytes) : ∀ (P : Bytes) (E : List Event),
      Det (entryLoop O (c₀.pos + (P ++ encEntries l).length)) (c₀.cur P (encEntries l ++ T) E) ()
        (c₀.cur (P ++ encEntries l) T (E ++ entryEvents l)) := by
  induction l with
  | nil =>
    intro P E
    rw [show encEntries [] = [] from rfl, show entryEvents [] = [] from rfl, List.append_nil, List.append_nil]
    exact det_entryLoop_done O _ _ (Nat.lt_irrefl _)
  | cons e l ih =>
    intro P E
    have he := hl e List.mem_cons_self
    have h := ih (fun x hx => hl x (List.mem_cons_of_mem _ hx)) (P ++ seqOf e) (E ++ [.insert (seqOf e)])
    rw [List.append_assoc, List.append_assoc] at h
    rw [show encEntries (e :: l) ++ T = seqOf e ++ (encEntries l ++ T) from List.append_assoc _ _ _]
    refine det_entryLoop_step O _ ?_
      (det_bind (reads_readStruct .entry O.entryOk e he.1 he.2 c₀ P _ E) (det_emit _ _)) ?_ h
    · show c₀.pos + P.length < c₀.pos + (P ++ (seqOf e ++ encEntries l)).length
      rw [List.length_append, List.length_append]
      have := seqOf_length_pos e
      omega
    · show (encEntries l ++ T).length < (seqOf e ++ (encEntries l ++ T)).length
      rw [List.length_append (as := seqOf e)]
      exact Nat.lt_add_of_pos_left (seqOf_length_pos e)

theorem det_entryLoop (O : Oracle) (l : List Bytes)
    (hl : ∀ e ∈ l, e.length ≤ 81920 ∧ O.entryOk (seqOf e) = true) :
    ∀ (c : Core) (t : Bytes), c.rest = encEntries l ++ t →
      Det (entryLoop O (c.pos + (encEntries l).length)) c ()
        { (c.after (encEntries l) t) with events := c.events ++ entryEvents l } := by
  intro c t h
  have := det_entryLoop_cur O l hl c t [] c.events
  rwa [show c.cur [] (encEntries l ++ t) c.events = c from after_nil c _ h] at this

theorem det_readVersion (v : Option UInt8) (c₀ : Core) (P T : Bytes) (E : List Event)
    (hT : ∀ tl : TL, T.head? = some tl.tag → (tl.tag == 2) = false) :
    Det readVersion (c₀.cur P (encVersion v ++ T) E) (verOf v) (c₀.cur (P ++ encVersion v) T E) := by
  cases v with
  | none =>
    -- absent: what follows is not an INTEGER
    rw [show encVersion none = [] from rfl, List.append_nil]
    exact det_absent (fun tl h => congrArg (· && tl.len == 1) (hT tl h)) rfl
  | some b =>
    refine det_present (x := [b]) rfl (show 1 < 2 ^ 32 by decide) rfl
      ((?_ : Reads _ [0x02, 0x01, b] (versionOf b)) c₀ P T E)
    exact (reads_readTL 2 1 (by decide)).ignoreErr.bind ((reads_readU8 b).bind (reads_pure _))

theorem det_readNextUpdate (O : Oracle) (nu : Option Bytes) (c₀ : Core) (P T : Bytes) (E : List Event)
    (hlen : ∀ v, nu = some v → v.length ≤ 81920) (hok : ∀ v, nu = some v → O.utcOk v = true)
    (hT : ∀ tl : TL, T.head? = some tl.tag → (tl.tag == 23) = false) :
    Det (readNextUpdate O) (c₀.cur P (encOptTime nu ++ T) E) nu (c₀.cur (P ++ encOptTime nu) T E) := by
  cases nu with
  | none =>
    -- absent: the element that follows has a tag other than UTCTime
    rw [show encOptTime none = [] from rfl, List.append_nil]
    exact det_absent hT rfl
  | some v =>
    exact det_present rfl (Nat.lt_of_le_of_lt (hlen v rfl) (by decide)) rfl
      (det_bind (reads_readUtcTime O v (hlen v rfl) (hok v rfl) c₀ P T E) (det_pure _ _))

theorem length_le_append_left (a b : Bytes) : b.length ≤ (a ++ b).length := by
  rw [List.length_append]; exact Nat.le_add_left _ _

theorem encList_some_length_pos (l : List Bytes) : 1 ≤ (encList (some l)).length := seqOf_length_pos _

/-- revokedCertificates. Absent: either tbsCertList has ended (no extensions follow) or the next element is `[0]`, not a
SEQUENCE. -/
theorem det_readEntryList (O : Oracle) (en : Option (List Bytes)) (ex : Option Bytes) (c₀ : Core) (P T : Bytes)
    (E : List Event) {tbsEnd : Nat} (hl : ∀ l, en = some l → ∀ e ∈ l, e.length ≤ 81920 ∧ O.entryOk (seqOf e) = true)
    (hsz : (encList en).length < 2 ^ 32) (h63 : tbsEnd < 2 ^ 63)
    (htbs : c₀.pos + (P ++ (encList en ++ encExts ex)).length = tbsEnd) :
    Det (readEntryList O tbsEnd) (c₀.cur P (encList en ++ (encExts ex ++ T)) E) ()
      (c₀.cur (P ++ encList en) (encExts ex ++ T) (E ++ match en with | none => [] | some l => entryEvents l)) := by
  refine det_bind (det_getPos _) ?_
  cases en with
  | some l =>
    have hlen : (encEntries l).length < 2 ^ 32 :=
      Nat.lt_of_le_of_lt (length_le_append_left (0x30 :: encLen _) _) hsz
    have hend : c₀.pos + (P ++ encList (some l)).length ≤ tbsEnd := by
      rw [← htbs, ← List.append_assoc, List.length_append (bs := encExts ex), ← Nat.add_assoc]; exact Nat.le_add_right _ _
    have hpos : c₀.pos + P.length < tbsEnd := by
      rw [List.length_append] at hend; have := encList_some_length_pos l; omega
    have hloop := det_entryLoop_cur O l (hl l rfl) c₀ (encExts ex ++ T) (P ++ (0x30 :: encLen (encEntries l).length)) E
    rw [List.append_assoc] at hloop
    refine det_present rfl hlen ?_ ?_
    · simp only [cur_pos, listGuardedByTbsEnd, Bool.not_true, Bool.false_or, hpos, decide_true, beq_self_eq_true, Bool.and_self]
    rw [show encList (some l) ++ (encExts ex ++ T) = _ from tlv_append _ _ _]
    refine det_bind (reads_readTL 0x30 _ hlen c₀ P _ E)
      (det_bind (det_expectTag _ 0x30) (det_bind (det_endPosition ?_ ?_) hloop))
    · simp only [cur_pos, List.length_append, Nat.add_assoc]
    · exact Nat.lt_of_le_of_lt hend h63
  | none =>
    rw [show P ++ encList none = P from List.append_nil P, List.append_nil]
    -- what follows: `[0]`, or (nothing of tbsCertList being left) the outer AlgorithmIdentifier
    have hno : ∀ tl : TL, (encExts ex ++ T).head? = some tl.tag →
        ((!listGuardedByTbsEnd || decide (c₀.pos + P.length < tbsEnd)) && (tl.tag == 0x30)) = false := by
      intro tl h
      cases ex with
      | some x => rw [← Option.some.inj h]; exact Bool.and_false _
      | none =>
        rw [← htbs, show P ++ (encList none ++ encExts none) = P from List.append_nil P, decide_eq_false (Nat.lt_irrefl _)]
        rfl
    exact det_absent hno (Bool.and_false _)

theorem det_readCrlNumber (l : List Ext) (num : Option Nat) (h : crlNumberPure l = some num) (c : Core) :
    Det (readCrlNumber l) c num c := by
  unfold Crv.readCrlNumber
  revert h
  fun_cases crlNumberPure l
  case case1 hf => rintro ⟨⟩; rw [hf]; exact det_pure _ _
  case case2 e hf n r0 hb =>
    rintro ⟨⟩
    simp only [hf]
    -- the sub-reader only adds to the allocation log
    refine det_bind (c' := c) (fun r hr => ?_) (det_pure _ _)
    exact ⟨{ r with allocs := r.allocs ++ r0.allocs }, by simp only [Crv.onBytes, hb], by rw [← hr]; rfl⟩
  case case3 => nofun

theorem det_readExtensions (O : Oracle) (ex : Option Bytes) (c₀ : Core) (P T : Bytes) (E : List Event) (version : Nat)
    {tbsEnd : Nat} (es : Option (List Ext)) (num : Option Nat)
    (hO : match ex with
      | none => es = none ∧ num = none
      | some x => ∃ l, O.exts (seqOf x) = some l ∧ es = some l ∧ criticalGate l = true ∧ crlNumberPure l = some num)
    (hlen : ∀ x, ex = some x → x.length ≤ 81920) (hv : ex.isSome → version > 1)
    (htbs : c₀.pos + (P ++ encExts ex).length = tbsEnd) :
    Det (readExtensions O tbsEnd version) (c₀.cur P (encExts ex ++ T) E) (es, num) (c₀.cur (P ++ encExts ex) T E) := by
  refine det_bind (det_getPos _) ?_
  cases ex with
  | some x =>
    obtain ⟨l, h1, h2, _, h4⟩ := hO
    have hsz : (seqOf x).length < 2 ^ 32 := by
      rw [seqOf, tlv_length]
      have := encLen_length_le x.length
      have := hlen x rfl
      omega
    have hpos : c₀.pos + P.length < tbsEnd := by
      rw [← htbs, List.length_append, ← Nat.add_assoc]; exact Nat.lt_add_of_pos_right (Nat.succ_le_succ (Nat.zero_le _))
    refine det_present rfl hsz ?_ ((?_ : Reads _ (tlv 0xA0 (seqOf x)) (es, num)) c₀ P T E)
    · simp only [cur_pos, extsGuardedByTbsEnd, Bool.not_true, Bool.false_or, hpos, decide_true, hv rfl,
        show isCtx0 0xA0 = true from rfl, Bool.and_self]
    refine (reads_readTL 0xA0 _ hsz).ignoreErr.bind ?_ (s₂ := seqOf x)
    refine (reads_readStructFrame x (hlen x rfl)).bind ?_ (List.append_nil _)
    refine (reads_logQuery _ _).bind ?_ (s₂ := [])
    simp only [h1, h2]
    exact (reads_of_det (det_readCrlNumber l num h4)).bind (reads_pure _)
  | none =>
    -- absent: tbsCertList has ended, which the position guard sees whatever follows
    obtain ⟨h1, h2⟩ := hO
    rw [h1, h2, show P ++ encExts none = P from List.append_nil P] at *
    have hno : ∀ b, ((!extsGuardedByTbsEnd || decide (c₀.pos + P.length < tbsEnd)) && b) = false := by
      intro b; rw [← htbs, decide_eq_false (Nat.lt_irrefl _)]; rfl
    exact det_absent (fun _ _ => hno _) (hno _)

end Crv
