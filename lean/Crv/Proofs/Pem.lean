import Crv.Pem
/-!
Lemmas about the PEM pipeline model `Crv.Pem` (core only). Base64: four characters carry three bytes (`quantum`) and
quanta are encoded independently (`b64Encode_take_drop`), hence `b64Chunks_encode`: however a valid encoding is cut into
chunks, the stream decoder returns the encoded bytes and ends with EOF. The round trip is the reader on a text that
begins with a line (`pemLines_line`), folded over armour lines and body lines.
-/
namespace Crv.Pem

/-! ### `encoding/base64`: `Encoding.Decode`, `decoder.Read` -/

theorem b64Val_b64Char : ∀ n, n < 64 → b64Val (b64Char n) = some n := by decide

theorem b64Val_pad : b64Val pad = none := by decide

theorem div_mod_pack (q r m : Nat) (h : r < m) : (q * m + r) / m = q ∧ (q * m + r) % m = r := by
  have hm : 0 < m := by omega
  rw [Nat.mul_comm, Nat.mul_add_div hm, Nat.mul_add_mod, Nat.div_eq_of_lt h, Nat.mod_eq_of_lt h]
  exact ⟨rfl, rfl⟩

/-- The padded forms are the instances `c = 0` and `b = c = 0`. -/
theorem quantum (a b c : UInt8) : ∃ va vb vc vd,
    b64Val (enc1 a) = some va ∧ b64Val (enc2 a b) = some vb ∧ b64Val (enc3 b c) = some vc ∧
    b64Val (enc4 c) = some vd ∧ dec1 va vb = a ∧ dec2 vb vc = b ∧ dec3 vc vd = c := by
  have ha := a.toNat_lt; have hb := b.toNat_lt; have hc := c.toNat_lt
  have hb16 : b.toNat / 16 < 16 := by omega
  have hc64 : c.toNat / 64 < 4 := by omega
  refine ⟨_, _, _, _, b64Val_b64Char _ ?_, b64Val_b64Char _ ?_, b64Val_b64Char _ ?_, b64Val_b64Char _ ?_, ?_, ?_, ?_⟩
  · omega
  · omega
  · omega
  · omega
  · unfold dec1
    rw [(div_mod_pack _ _ 16 hb16).1, Nat.div_add_mod']
    exact UInt8.ofNat_toNat
  · unfold dec2
    rw [(div_mod_pack _ _ 16 hb16).2, (div_mod_pack _ _ 4 hc64).1, Nat.div_add_mod']
    exact UInt8.ofNat_toNat
  · unfold dec3
    rw [(div_mod_pack _ _ 4 hc64).2, Nat.div_add_mod']
    exact UInt8.ofNat_toNat

theorem decodeQuads_encode (bs : List UInt8) : decodeQuads (b64Encode bs) = (bs, true) := by
  induction bs using b64Encode.induct with
  | case1 a b c rest ih =>
    obtain ⟨va, vb, vc, vd, h1, h2, h3, h4, e1, e2, e3⟩ := quantum a b c
    simp [b64Encode, decodeQuads, h1, h2, h3, h4, e1, e2, e3, ih]
  | case2 a b =>
    obtain ⟨va, vb, vc, vd, h1, h2, h3, _, e1, e2, _⟩ := quantum a b 0
    simp [b64Encode, decodeQuads, h1, h2, h3, b64Val_pad, e1, e2]
  | case3 a =>
    obtain ⟨va, vb, vc, vd, h1, h2, _, _, e1, _, _⟩ := quantum a 0 0
    simp [b64Encode, decodeQuads, h1, h2, b64Val_pad, e1]
  | case4 => simp [b64Encode, decodeQuads]

theorem b64Encode_take_drop (k : Nat) (bs : List UInt8) :
    (b64Encode bs).take (4 * k) = b64Encode (bs.take (3 * k)) ∧
    (b64Encode bs).drop (4 * k) = b64Encode (bs.drop (3 * k)) := by
  induction k generalizing bs with
  | zero => simp [b64Encode]
  | succ k ih =>
    match bs with
    | [] | [_] | [_, _] => simp [b64Encode, Nat.mul_succ]
    | a :: b :: c :: rest => simpa [b64Encode, Nat.mul_succ] using ih rest

theorem b64Encode_short {bs : List UInt8} (h : (b64Encode bs).length < 4) : bs = [] := by
  match bs, h with
  | [], _ => rfl
  | [_], h | [_, _], h => simp [b64Encode] at h
  | _ :: _ :: _ :: _, h => simp [b64Encode] at h; omega

theorem decodeQuads_prefix {buf rest bs : List UInt8} (h : buf ++ rest = b64Encode bs) (k : Nat)
    (hk : 4 * k ≤ buf.length) :
    decodeQuads (buf.take (4 * k)) = (bs.take (3 * k), true) ∧
    buf.drop (4 * k) ++ rest = b64Encode (bs.drop (3 * k)) := by
  obtain ⟨e1, e2⟩ := b64Encode_take_drop k bs
  rw [← h, List.take_append_of_le_length hk] at e1
  rw [← h, List.drop_append_of_le_length hk] at e2
  exact ⟨by rw [e1, decodeQuads_encode], e2⟩

/-- Whatever way a valid encoding is cut into chunks, the stream decoder returns the encoded bytes. -/
theorem b64Chunks_encode (carry : List UInt8) (cs : List (List UInt8)) (bs : List UInt8) (hc : carry.length < 4)
    (h : carry ++ cs.flatten = b64Encode bs) : b64Chunks carry cs = (bs, .eof) := by
  fun_induction b64Chunks carry cs generalizing bs with
  | case1 carry =>
    rw [List.flatten_nil, List.append_nil] at h
    obtain rfl : bs = [] := b64Encode_short (h ▸ hc)
    subst h
    rfl
  | case2 carry c cs buf hlt ih => exact ih bs hlt (by simpa [buf] using h)
  | case3 carry c cs buf hge nr d hd r ih =>
    obtain ⟨e1, e2⟩ := decodeQuads_prefix (buf := buf) (by simpa [buf] using h) (buf.length / 4) (by omega)
    rw [Nat.mul_comm] at e1 e2  -- `nr` is `len / 4 * 4`, the lemma says `4 * k`
    -- `d` and `r` are the `let`s of `b64Chunks`; name their values, then the goal `(d.1 ++ r.1, r.2) = (bs, .eof)`
    -- rewrites to `take ++ drop`
    have hr : r = _ := ih _ (by simp only [List.length_drop, nr]; omega) e2
    have hd : d = _ := e1
    rw [hr, hd, List.take_append_drop]
  | case4 carry c cs buf hge nr d hd =>
    obtain ⟨e1, _⟩ := decodeQuads_prefix (buf := buf) (by simpa [buf] using h) (buf.length / 4) (by omega)
    rw [Nat.mul_comm] at e1
    exact absurd (congrArg Prod.snd e1) hd

/-- Neither a line break nor a dash. -/
def plainChar (x : UInt8) : Prop := x ≠ 10 ∧ x ≠ 13 ∧ x ≠ 45

theorem plain_of_val {x : UInt8} {v : Nat} (h : b64Val x = some v) : plainChar x := by
  have hs : (b64Val x).isSome = true := by rw [h]; rfl
  refine ⟨?_, ?_, ?_⟩ <;> rintro rfl <;> exact absurd hs (by decide)

theorem plain_pad : plainChar pad := by unfold plainChar; decide

theorem b64Encode_plain (bs : List UInt8) : ∀ x ∈ b64Encode bs, plainChar x := by
  fun_induction b64Encode bs with
  | case1 a b c rest ih =>
    obtain ⟨_, _, _, _, h1, h2, h3, h4, _⟩ := quantum a b c
    simpa [plain_of_val h1, plain_of_val h2, plain_of_val h3, plain_of_val h4] using ih
  | case2 a b =>
    obtain ⟨_, _, _, _, h1, h2, h3, _⟩ := quantum a b 0
    simp [plain_of_val h1, plain_of_val h2, plain_of_val h3, plain_pad]
  | case3 a =>
    obtain ⟨_, _, _, _, h1, h2, _⟩ := quantum a 0 0
    simp [plain_of_val h1, plain_of_val h2, plain_pad]
  | case4 => simp

theorem chunksOfAux_spec {n : Nat} (hn : 0 < n) (fuel : Nat) (l : List UInt8) (h : l.length ≤ fuel) :
    (chunksOfAux n fuel l).flatten = l ∧ ∀ c ∈ chunksOfAux n fuel l, c ≠ [] ∧ c.length ≤ n := by
  fun_induction chunksOfAux n fuel l with
  | case1 l =>
    obtain rfl : l = [] := List.eq_nil_of_length_eq_zero (by omega)
    simp
  | case2 fuel l he => simp [List.isEmpty_iff.mp he]
  | case3 fuel l he ih =>
    have hl : 0 < l.length := List.length_pos_iff.mpr (by simpa using he)
    obtain ⟨i1, i2⟩ := ih (by rw [List.length_drop]; omega)
    refine ⟨by rw [List.flatten_cons, i1, List.take_append_drop], fun c hc => ?_⟩
    rcases List.mem_cons.mp hc with rfl | hc
    · exact ⟨List.length_pos_iff.mp (by rw [List.length_take]; omega), by rw [List.length_take]; omega⟩
    · exact i2 c hc

theorem chunksOf_spec {n : Nat} (hn : 0 < n) (l : List UInt8) :
    (chunksOf n l).flatten = l ∧ ∀ c ∈ chunksOf n l, c ≠ [] ∧ c.length ≤ n :=
  chunksOfAux_spec hn _ l (Nat.le_refl _)

/-! ### `ReadString('\n')` -/

def IsLine (l : List UInt8) : Prop := ∃ b, l = b ++ [10] ∧ (10 : UInt8) ∉ b

theorem nextLine_line {l : List UInt8} (hl : IsLine l) (rest : List UInt8) :
    nextLine (l ++ rest) = some (l, rest) := by
  obtain ⟨b, rfl, hb⟩ := hl
  induction b with
  | nil => simp [nextLine]
  | cons c b ih =>
    have hc : c ≠ 10 := fun h => hb (by simp [h])
    have hb' : (10 : UInt8) ∉ b := fun h => hb (by simp [h])
    have := ih hb'
    simp only [List.append_assoc, List.singleton_append] at this
    simp [nextLine, hc, this]

/-- `splitLines` is the iteration of `nextLine` (= of `ReadString('\n')`). -/
theorem splitLines_of_nextLine_some {s l rest : List UInt8} (h : nextLine s = some (l, rest)) :
    splitLines s = (l :: (splitLines rest).1, (splitLines rest).2) := by
  fun_induction nextLine s generalizing l with
  | case1 => cases h
  | case2 cs => cases h; simp [splitLines]
  | case3 c cs hc hn => cases h
  | case4 c cs hc l' rest' hn ih => cases h; simp [splitLines, hc, ih hn]

theorem splitLines_of_nextLine_none {s : List UInt8} (h : nextLine s = none) : splitLines s = ([], s) := by
  fun_induction nextLine s with
  | case1 => rfl
  | case2 cs => cases h
  | case3 c cs hc hn ih => simp [splitLines, hc, ih hn]
  | case4 c cs hc l' rest' hn => cases h

theorem splitLines_flatten_append (s : List UInt8) : (splitLines s).1.flatten ++ (splitLines s).2 = s := by
  fun_induction splitLines s with
  | case1 => rfl
  | case2 cs r ih => simpa using ih
  | case3 c cs r hc h ih => rw [h] at ih; simpa using ih
  | case4 c cs r hc l ls h ih => rw [h] at ih; simpa using ih

theorem nextLine_some {s l rest : List UInt8} (h : nextLine s = some (l, rest)) : s = l ++ rest := by
  have := splitLines_flatten_append s
  rw [splitLines_of_nextLine_some h, List.flatten_cons, List.append_assoc, splitLines_flatten_append] at this
  exact this.symm

/-- Text without `\n` at the end of the input never becomes a line. -/
theorem splitLines_append_unterminated (text tail : List UInt8) (ht : (10 : UInt8) ∉ tail) :
    (splitLines (text ++ tail)).1 = (splitLines text).1 := by
  induction text with
  | nil =>
    simp only [List.nil_append, splitLines]
    induction tail with
    | nil => simp [splitLines]
    | cons c t ih =>
      have hc : c ≠ 10 := fun h => ht (by simp [h])
      have := ih (fun h => ht (by simp [h]))
      simp [splitLines, hc, this]
  | cons c cs ih =>
    simp only [List.cons_append, splitLines]
    split
    · simp [ih]
    · rw [ih]
      split <;> simp

/-! ### the armour regexp `pemPaddingRegEx` -/

theorem isEol_iff {e : List UInt8} : isEol e = true ↔ e = [] ∨ ∃ crlf, e = eol crlf := by
  simp [isEol, eol, or_assoc]

/-- The label class is skipped greedily (`-` is not in it), so the regexp needs no backtracking. -/
theorem armourTail_eq (t : List UInt8) : armourTail t = closes (t.dropWhile isLabelChar) := by
  fun_induction armourTail t with
  | case1 => rfl
  | case2 c cs hc ih => rw [List.dropWhile_cons_of_pos hc, ih]
  | case3 c cs hc => rw [List.dropWhile_cons_of_neg hc]

theorem closes_iff {t : List UInt8} : closes t = true ↔ ∃ e, t = dashes ++ e ∧ isEol e = true := by
  simp only [closes, Bool.and_eq_true, beq_iff_eq]
  exact ⟨fun h => ⟨_, by rw [← h.1, List.take_append_drop], h.2⟩, by rintro ⟨e, rfl, he⟩; exact ⟨rfl, he⟩⟩

theorem isArmour_iff {l : List UInt8} : isArmour l = true ↔
    ∃ mid e, l = dashes ++ mid ++ dashes ++ e ∧ (∀ c ∈ mid, isLabelChar c = true) ∧ isEol e = true := by
  simp only [isArmour, armourTail_eq, Bool.and_eq_true, beq_iff_eq, closes_iff]
  constructor
  · rintro ⟨h5, e, ht, he⟩
    refine ⟨(l.drop 5).takeWhile isLabelChar, e, ?_, List.all_eq_true.mp List.all_takeWhile, he⟩
    rw [List.append_assoc, List.append_assoc, ← ht, List.takeWhile_append_dropWhile, ← h5, List.take_append_drop]
  · rintro ⟨mid, e, rfl, hm, he⟩
    rw [List.append_assoc, List.append_assoc]
    -- after the label the text goes on with `-`, where `dropWhile` stops
    exact ⟨rfl, e, (List.dropWhile_append_of_pos hm).trans rfl, he⟩

theorem isArmour_head {l : List UInt8} (h : isArmour l = true) : ∃ t, l = 45 :: t := by
  obtain ⟨mid, e, rfl, _⟩ := isArmour_iff.mp h
  exact ⟨_, rfl⟩

theorem isArmour_false_of_head {c : UInt8} (t : List UInt8) (hc : c ≠ 45) : isArmour (c :: t) = false := by
  cases h : isArmour (c :: t) with
  | false => rfl
  | true => obtain ⟨t', e⟩ := isArmour_head h; simp at e; exact absurd e.1 hc

theorem isLabelChar_ne_nl {c : UInt8} (h : isLabelChar c = true) : c ≠ 10 := by
  intro e; subst e; revert h; decide

theorem not_mem_dashes : (10 : UInt8) ∉ dashes := by decide

theorem no_nl_of_shape {mid : List UInt8} (hm : ∀ c ∈ mid, isLabelChar c = true) :
    (10 : UInt8) ∉ dashes ++ mid ++ dashes := by
  intro h
  simp only [List.mem_append] at h
  rcases h with (h | h) | h
  · exact not_mem_dashes h
  · exact isLabelChar_ne_nl (hm _ h) rfl
  · exact not_mem_dashes h

theorem isLine_append_eol (x : List UInt8) (crlf : Bool) (hx : (10 : UInt8) ∉ x) : IsLine (x ++ eol crlf) := by
  cases crlf with
  | false => exact ⟨x, by simp [eol], hx⟩
  | true =>
    refine ⟨x ++ [13], by simp [eol], ?_⟩
    intro h
    rcases List.mem_append.1 h with h | h
    · exact hx h
    · simp at h

theorem isArmour_isLine {a : List UInt8} (ha : isArmour a = true) (hlast : a.getLast? = some 10) : IsLine a := by
  obtain ⟨mid, e, rfl, hm, he⟩ := isArmour_iff.mp ha
  rcases isEol_iff.mp he with rfl | ⟨crlf, rfl⟩
  · exact absurd (by simpa using List.mem_of_getLast? hlast) (no_nl_of_shape hm)
  · exact isLine_append_eol _ crlf (no_nl_of_shape hm)

/-! ### `pem.EncodeToMemory` -/

theorem beginWord_ok : ∀ c ∈ beginWord, isLabelChar c = true := by decide
theorem endWord_ok : ∀ c ∈ endWord, isLabelChar c = true := by decide

theorem labelOk_word {w label : List UInt8} (hw : ∀ c ∈ w, isLabelChar c = true) (h : labelOk label) :
    ∀ c ∈ w ++ label, isLabelChar c = true :=
  fun c hc => (List.mem_append.1 hc).elim (hw c) (h c)

theorem beginLine_facts {label : List UInt8} (h : labelOk label) (crlf : Bool) :
    IsLine (beginLine label ++ eol crlf) ∧ isArmour (beginLine label ++ eol crlf) = true :=
  have hm := labelOk_word beginWord_ok h
  ⟨isLine_append_eol _ _ (no_nl_of_shape hm), isArmour_iff.mpr ⟨_, _, rfl, hm, isEol_iff.mpr (.inr ⟨crlf, rfl⟩)⟩⟩

theorem endLine_facts {label : List UInt8} (h : labelOk label) (crlf : Bool) :
    IsLine (endLine label ++ eol crlf) ∧ isArmour (endLine label ++ eol crlf) = true :=
  have hm := labelOk_word endWord_ok h
  ⟨isLine_append_eol _ _ (no_nl_of_shape hm), isArmour_iff.mpr ⟨_, _, rfl, hm, isEol_iff.mpr (.inr ⟨crlf, rfl⟩)⟩⟩

theorem filterNl_plain (c : List UInt8) (h : ∀ x ∈ c, plainChar x) : filterNl c = c := by
  unfold filterNl
  rw [List.filter_eq_self]
  intro x hx
  obtain ⟨h1, h2, _⟩ := h x hx
  simp [h1, h2]

theorem filterNl_eol (crlf : Bool) : filterNl (eol crlf) = [] := by cases crlf <;> decide

theorem filterNl_append (a b : List UInt8) : filterNl (a ++ b) = filterNl a ++ filterNl b := by
  simp [filterNl]

/-- What the reader sees of a body line: the line is complete, no armour, short enough, and the filter
leaves the base64 text. -/
theorem bodyLine_facts (crlf : Bool) (der c : List UInt8) (hc : c ∈ chunksOf 64 (b64Encode der)) :
    IsLine (c ++ eol crlf) ∧ isArmour (c ++ eol crlf) = false ∧ (c ++ eol crlf).length ≤ maxLine ∧
      filterNl (c ++ eol crlf) = c := by
  obtain ⟨hflat, hcs⟩ := chunksOf_spec (n := 64) (by omega) (b64Encode der)
  obtain ⟨hne, hlen⟩ := hcs c hc
  have hplain : ∀ x ∈ c, plainChar x := fun x hx =>
    b64Encode_plain der x (hflat ▸ List.mem_flatten_of_mem hc hx)
  refine ⟨isLine_append_eol c crlf (fun h => (hplain _ h).1 rfl), ?_, ?_, ?_⟩
  · match c, hne with
    | x :: t, _ => exact isArmour_false_of_head _ (hplain x (by simp)).2.2
  · have : (eol crlf).length ≤ 2 := by cases crlf <;> decide
    simp only [List.length_append, maxLine]; omega
  · rw [filterNl_append, filterNl_plain c hplain, filterNl_eol]; simp

theorem map_filterNl_bodyLines (crlf : Bool) (der : List UInt8) :
    (bodyLines crlf der).map filterNl = chunksOf 64 (b64Encode der) := by
  unfold bodyLines
  rw [List.map_map]
  conv => rhs; rw [← List.map_id (chunksOf 64 (b64Encode der))]
  apply List.map_congr_left
  intro c hc
  simpa using (bodyLine_facts crlf der c hc).2.2.2

/-! ### `PemReader.Read` -/

theorem pemLines_line {a : List UInt8} (hl : IsLine a) (text : List UInt8) :
    pemLines (a ++ text) =
      if isArmour a then pemLines text
      else if a.length > maxLine then ([], .lineTooLong)
      else (a :: (pemLines text).1, (pemLines text).2) := by
  simp only [pemLines, splitLines_of_nextLine_some (nextLine_line hl text), deliver]

theorem pemLines_armour_lines (as : List (List UInt8)) (h : ∀ a ∈ as, IsLine a ∧ isArmour a = true)
    (text : List UInt8) : pemLines (as.flatten ++ text) = pemLines text := by
  induction as with
  | nil => rfl
  | cons a as ih =>
    obtain ⟨h1, h2⟩ := h a (by simp)
    rw [List.flatten_cons, List.append_assoc, pemLines_line h1, if_pos h2, ih (fun x hx => h x (by simp [hx]))]

theorem pemLines_pass (ls : List (List UInt8)) (h : ∀ l ∈ ls, IsLine l ∧ isArmour l = false ∧ l.length ≤ maxLine)
    (text : List UInt8) : pemLines (ls.flatten ++ text) = (ls ++ (pemLines text).1, (pemLines text).2) := by
  induction ls with
  | nil => rfl
  | cons l ls ih =>
    obtain ⟨h1, h2, h3⟩ := h l (by simp)
    rw [List.flatten_cons, List.append_assoc, pemLines_line h1, if_neg (by simp [h2]), if_neg (Nat.not_lt.2 h3),
      ih (fun x hx => h x (by simp [hx]))]
    rfl

/-- `post`: the END line, or none at all. -/
theorem pemDecode_armoured (crlf : Bool) (label der : List UInt8) (h : labelOk label) (post : List (List UInt8))
    (hpost : ∀ l ∈ post, IsLine l ∧ isArmour l = true) :
    pemDecode ((beginLine label ++ eol crlf) ++ ((bodyLines crlf der).flatten ++ post.flatten)) = (der, .eof) := by
  have hbody : ∀ l ∈ bodyLines crlf der, IsLine l ∧ isArmour l = false ∧ l.length ≤ maxLine := by
    intro l hl
    simp only [bodyLines, List.mem_map] at hl
    obtain ⟨c, hc, rfl⟩ := hl
    have := bodyLine_facts crlf der c hc
    exact ⟨this.1, this.2.1, this.2.2.1⟩
  have hlines : pemLines ((beginLine label ++ eol crlf) ++ ((bodyLines crlf der).flatten ++ post.flatten)) =
      (bodyLines crlf der, .eof) := by
    rw [pemLines_line (beginLine_facts h crlf).1, if_pos (beginLine_facts h crlf).2, pemLines_pass _ hbody,
      ← List.append_nil post.flatten, pemLines_armour_lines post hpost]
    simp [pemLines, splitLines, deliver]
  simp only [pemDecode, hlines, map_filterNl_bodyLines]
  rw [b64Chunks_encode [] _ der (by simp) (by simp [(chunksOf_spec (n := 64) (by omega) _).1])]
  rfl

/-! ### `IsPemFile` -/

theorem stripEol_prefix (l : List UInt8) : ∃ t, l = stripEol l ++ t := by
  fun_cases stripEol l
  · next r h => exact ⟨[13, 10], by simpa using congrArg List.reverse h⟩
  · next r _ h => exact ⟨[10], by simpa using congrArg List.reverse h⟩
  · exact ⟨[], by simp⟩

theorem isPemFile_head {input : List UInt8} (h : isPemFile input = true) : ∃ t, input = 45 :: t := by
  revert h
  fun_cases isPemFile input
  case case1 => nofun
  case case2 l rest hn =>
    intro h
    obtain ⟨t1, e1⟩ := isArmour_head h
    obtain ⟨t2, e2⟩ := stripEol_prefix l
    have e3 := nextLine_some hn
    have e4 := List.take_append_drop bufSize input
    rw [e3, e2, e1] at e4
    exact ⟨t1 ++ t2 ++ rest ++ List.drop bufSize input, by simpa using e4.symm⟩
  case case3 => nofun
  case case4 => exact isArmour_head

theorem stripEol_lf (b : List UInt8) (hb : b.getLast? ≠ some 13) : stripEol (b ++ [10]) = b := by
  rcases List.eq_nil_or_concat b with rfl | ⟨x, y, rfl⟩
  · rfl
  · have hy : y ≠ 13 := by simpa using hb
    simp only [stripEol, List.concat_eq_append, List.reverse_append, List.reverse_cons, List.reverse_nil,
      List.nil_append, List.cons_append]
    split
    · next h => cases h; exact absurd rfl hy
    · next h => cases h; simp
    · next h => exact absurd rfl (h _)

theorem stripEol_crlf (b : List UInt8) : stripEol (b ++ [13, 10]) = b := by simp [stripEol]

theorem stripEol_beginLine (crlf : Bool) (label : List UInt8) :
    stripEol (beginLine label ++ eol crlf) = beginLine label := by
  cases crlf with
  | true => exact stripEol_crlf _
  | false =>
    refine stripEol_lf _ ?_
    have : beginLine label = (dashes ++ (beginWord ++ label) ++ [45, 45, 45, 45]) ++ [45] := by
      simp [beginLine, dashes]
    rw [this, List.getLast?_concat]
    decide

-- `4078 = 4096 − |-----BEGIN | (11) − |-----| (5) − |\r\n| (2)`: the first line with its line end fits the buffer of
-- `ReadLine`.
theorem isPemFile_pemEncode (crlf : Bool) (label der : List UInt8) (h : labelOk label)
    (hlen : label.length ≤ 4078) : isPemFile (pemEncode crlf label der) = true := by
  have hline := (beginLine_facts h crlf).1
  have hl : (beginLine label ++ eol crlf).length ≤ bufSize := by
    have : (eol crlf).length ≤ 2 := by cases crlf <;> decide
    simp only [beginLine, dashes, beginWord, bufSize, List.length_append, List.length_cons, List.length_nil]
    omega
  have hne : (pemEncode crlf label der).isEmpty = false := by
    simp [pemEncode, beginLine, dashes]
  unfold isPemFile
  rw [hne]
  simp only [Bool.false_eq_true, if_false]
  have htake : (pemEncode crlf label der).take bufSize =
      (beginLine label ++ eol crlf) ++
        ((bodyLines crlf der).flatten ++ (endLine label ++ eol crlf)).take (bufSize - (beginLine label ++ eol crlf).length) := by
    unfold pemEncode
    rw [List.take_append, List.take_of_length_le hl]
  rw [htake, nextLine_line hline]
  simp only [stripEol_beginLine]
  have : isArmour (beginLine label ++ []) = true := isArmour_iff.mpr ⟨_, [], rfl, labelOk_word beginWord_ok h, rfl⟩
  simpa using this

/-! ### Size of the output: `4·|out| ≤ 3·|in|` -/

theorem decodeQuads_length (l : List UInt8) : (decodeQuads l).1.length * 4 ≤ l.length * 3 := by
  fun_induction decodeQuads l <;> simp +zetaDelta <;> omega

theorem b64Chunks_length (carry : List UInt8) (cs : List (List UInt8)) :
    (b64Chunks carry cs).1.length * 4 ≤ (carry.length + cs.flatten.length) * 3 := by
  fun_induction b64Chunks carry cs with
  | case1 => simp
  | case2 carry c cs buf hlt ih => simp only [buf, List.length_append, List.flatten_cons] at ih ⊢; omega
  | case3 carry c cs buf hge nr d hd r ih =>
    have h1 : d.1.length * 4 ≤ (buf.take nr).length * 3 := decodeQuads_length _
    have ih : r.1.length * 4 ≤ ((buf.drop nr).length + cs.flatten.length) * 3 := ih
    have h2 : (buf.take nr).length + (buf.drop nr).length = carry.length + c.length := by
      rw [← List.length_append, List.take_append_drop, List.length_append]
    simp only [List.length_append, List.flatten_cons]
    omega
  | case4 carry c cs buf hge nr d hd =>
    have h1 : d.1.length * 4 ≤ (buf.take nr).length * 3 := decodeQuads_length _
    have h2 : (buf.take nr).length ≤ carry.length + c.length := by
      rw [← List.length_append]; exact List.length_take_le' _ _
    simp only [List.length_append, List.flatten_cons]
    omega

theorem map_filterNl_length (ls : List (List UInt8)) : (ls.map filterNl).flatten.length ≤ ls.flatten.length := by
  induction ls with
  | nil => simp
  | cons l ls ih => have : (filterNl l).length ≤ l.length := List.length_filter_le _ _; simp at ih ⊢; omega

theorem deliver_length (ls : List (List UInt8)) : (deliver ls).1.flatten.length ≤ ls.flatten.length := by
  fun_induction deliver ls <;> simp +zetaDelta at * <;> omega

theorem pemDecode_length (input : List UInt8) : (pemDecode input).1.length * 4 ≤ input.length * 3 := by
  have h1 := b64Chunks_length [] ((pemLines input).1.map filterNl)
  have h2 := map_filterNl_length (pemLines input).1
  have h3 := deliver_length (splitLines input).1
  have h4 := congrArg List.length (splitLines_flatten_append input)
  rw [List.length_append] at h4
  simp only [pemDecode, pemLines, List.length_nil, Nat.zero_add] at *
  omega

end Crv.Pem
