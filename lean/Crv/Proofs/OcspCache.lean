import Crv.Proofs.OcspLookup
import Crv.Proofs.ListSplit
/-! C14: the cache key, and invariants of histories of lookups against the shared cache table (sliding expiry of cache2go
included). What one event preserves every run preserves (`exec_invariant`); what is stored, and why, is a fact about a single
lookup (`lookup_stored`); where a hit comes from needs the table invariant `Inv`. -/
namespace Crv.Cache

variable {κ α : Type}

section
variable [DecidableEq κ]

theorem find?_cons (a : κ) (it : Item α) (T : Table κ α) (k : κ) :
    find? ((a, it) :: T) k = if a = k then some it else find? T k := rfl

theorem find?_eq_none {T : Table κ α} {k : κ} : find? T k = none ↔ k ∉ T.map Prod.fst := by
  induction T with
  | nil => exact ⟨fun _ => List.not_mem_nil, fun _ => rfl⟩
  | cons p T ih =>
    rw [find?_cons, List.map_cons, List.mem_cons, not_or, ← ih]
    by_cases h : p.1 = k
    · rw [if_pos h]; exact ⟨fun h' => (by cases h'), fun h' => absurd h.symm h'.1⟩
    · rw [if_neg h]; exact ⟨fun h' => ⟨fun e => h e.symm, h'⟩, fun h' => h'.2⟩

theorem delete_cons (a : κ) (it : Item α) (T : Table κ α) (k : κ) :
    delete ((a, it) :: T) k = if a = k then delete T k else (a, it) :: delete T k := by
  by_cases h : a = k <;> simp [delete, h]

theorem touch_cons (a : κ) (it : Item α) (T : Table κ α) (k : κ) (now : Nat) :
    touch ((a, it) :: T) k now = (a, if a = k then { it with accessedOn := now } else it) :: touch T k now := by
  rw [touch, List.map_cons]; split <;> rfl

theorem find?_mem {T : Table κ α} {k : κ} {it : Item α} (h : find? T k = some it) : (k, it) ∈ T := by
  fun_induction find? T k with
  | case1 => cases h
  | case2 it' rest => cases h; exact List.mem_cons_self
  | case3 k' it' rest hk ih => exact List.mem_cons_of_mem _ (ih h)

theorem mem_touch {T : Table κ α} {k : κ} {now : Nat} {p : κ × Item α} (h : p ∈ touch T k now) :
    ∃ q ∈ T, ∃ t, p = (q.1, { q.2 with accessedOn := t }) := by
  obtain ⟨q, hq, rfl⟩ := List.mem_map.mp h
  refine ⟨q, hq, ?_⟩
  split
  · exact ⟨now, rfl⟩
  · exact ⟨q.2.accessedOn, rfl⟩

end

theorem sweep_cons (a : κ) (it : Item α) (T : Table κ α) (now : Nat) :
    sweep ((a, it) :: T) now = if expired it now then sweep T now else (a, it) :: sweep T now := by
  simp only [sweep, List.filter_cons]; cases expired it now <;> rfl

/-- After a sweep at `now` every remaining item with a finite life span was accessed less than a life span ago. -/
theorem sweep_fresh {T : Table κ α} {now : Nat} {p : κ × Item α} (h : p ∈ sweep T now) :
    p.2.lifeSpan = 0 ∨ now - p.2.accessedOn < p.2.lifeSpan := by
  have := (List.mem_filter.mp h).2
  simp only [expired, Bool.not_and, Bool.or_eq_true, Bool.not_eq_true', bne_eq_false_iff_eq,
    decide_eq_false_iff_not, Nat.not_le] at this
  simpa using this

end Crv.Cache

namespace Crv.Ocsp
open Crv.Cache

/-! The cache key `issuer ++ "_" ++ decimal serial` determines issuer and serial, because the decimal rendering contains no
underscore (so the *last* underscore is the separator) and is injective. -/

theorem toDigits_inj {m n : Nat} (h : Nat.toDigits 10 m = Nat.toDigits 10 n) : m = n := by
  rw [← @Nat.ofDigitChars_ten_toDigits m, h, Nat.ofDigitChars_ten_toDigits]

theorem key_inj {a b : Str} {m n : Nat}
    (h : a ++ '_' :: Nat.toDigits 10 m = b ++ '_' :: Nat.toDigits 10 n) : a = b ∧ m = n :=
  have ⟨ha, hd⟩ := split_unique Nat.underscore_not_in_toDigits Nat.underscore_not_in_toDigits h
  ⟨ha, toDigits_inj hd⟩

theorem mkKey_canon (skew : Nat) (cert : Cert) :
    mkKey (canon skew) cert = cert.issuer ++ '_' :: Nat.toDigits 10 cert.serial := by
  simp [mkKey, keyPart]

theorem mkKey_canon_inj {skew : Nat} {c₁ c₂ : Cert} :
    mkKey (canon skew) c₁ = mkKey (canon skew) c₂ ↔ (c₁.issuer = c₂.issuer ∧ c₁.serial = c₂.serial) := by
  rw [mkKey_canon, mkKey_canon]
  exact ⟨key_inj, fun ⟨h1, h2⟩ => by rw [h1, h2]⟩

theorem lifetime_canon (skew d now : Nat) (nu : Option Nat) :
    lifetime (canon skew) d now nu =
      match nu with
      | some n => if n > now then n - now + skew else d
      | none => d := by
  unfold lifetime
  cases nu <;> simp

variable (V : Key → Signed → Bool)

theorem exec_invariant {F : Facts} (I : World → List Obs → Prop)
    (hstep : ∀ w obs e, I w obs → I (step F V w e).1 (obs ++ (step F V w e).2.toList)) :
    ∀ (evs : List Event) (w : World) (obs : List Obs), I w obs → I (exec F V w evs).1 (obs ++ (exec F V w evs).2)
  | [], _, obs, h => (List.append_nil obs).symm ▸ h
  | e :: es, w, obs, h => by
    have := exec_invariant I hstep es _ _ (hstep w obs e h)
    rwa [List.append_assoc] at this

theorem exec_obs {F : Facts} (P : Obs → Prop)
    (h : ∀ w inst cert cands answer, P (obsOf w inst cert (lookup F V inst cert cands answer w.now w.table)))
    (evs : List Event) (w : World) : ∀ o ∈ (exec F V w evs).2, P o :=
  exec_invariant V (F := F) (fun _ obs => ∀ o ∈ obs, P o) (fun w obs e hI o ho => by
    rcases List.mem_append.mp ho with ho | ho
    · exact hI o ho
    · cases e with
      | look inst cert cands answer => cases List.mem_singleton.mp ho; exact h ..
      | _ => cases ho) evs w [] (fun _ h => absurd h List.not_mem_nil)

theorem lookup_stored (skew : Nat) (inst : Inst) (cert : Cert) (cands : List Cand) (answer : Str → Cand → Fetch)
    (now : Nat) (T : Table) (L : Nat) (hL : (lookup (canon skew) V inst cert cands answer now T).stored = some L) :
    ∃ p, (lookup (canon skew) V inst cert cands answer now T).answered = some p ∧
      (lookup (canon skew) V inst cert cands answer now T).hit = false ∧
      L = lifetime (canon skew) inst.defaultDur now p.nextUpdate ∧ 0 < L ∧
      (lookup (canon skew) V inst cert cands answer now T).result = verdictOf p := by
  rcases lookup_cases V skew cert cands answer now T with
    ⟨rv, T', h⟩ | ⟨T', h, ⟨pre, q, post, p, hl, hpre, hq⟩ | hall⟩
  · rw [lookup_hit V h] at hL; cases hL
  · rw [lookup_answered V h hl hpre hq] at hL ⊢
    dsimp only at hL
    split at hL
    · cases hL; exact ⟨p, rfl, rfl, rfl, by assumption, rfl⟩
    · cases hL
  · rw [lookup_unanswered V h hall] at hL; cases hL

theorem run_stored (skew : Nat) (evs : List Event) : ∀ o ∈ (exec (canon skew) V {} evs).2, ∀ L, o.stored = some L →
    ∃ p, o.answered = some p ∧ o.hit = false ∧
      L = lifetime (canon skew) o.inst.defaultDur o.t p.nextUpdate ∧ 0 < L ∧ o.result = verdictOf p :=
  exec_obs V _ (fun w inst cert cands answer => lookup_stored V skew inst cert cands answer w.now w.table) evs {}

theorem mem_tryGet {F : Facts} {T : Table} {key : Str} {now : Nat} {p : Str × Item Cached}
    (h : p ∈ (tryGet F T key now).2) : ∃ q ∈ T, ∃ t, p = (q.1, { q.2 with accessedOn := t }) := by
  revert h
  unfold tryGet
  fun_cases Cache.value T key now
  · exact fun h => ⟨p, h, _, rfl⟩
  · dsimp only
    split
    · exact fun h => mem_touch (List.mem_filter.mp h).1
    · exact mem_touch

theorem tryGet_hit {skew : Nat} {T T' : Table} {key : Str} {now : Nat} {rv : Bool}
    (h : tryGet (canon skew) T key now = (some rv, T')) :
    ∃ it, (key, it) ∈ T ∧ rv = it.data.revoked ∧ now ≤ it.data.validUntil := by
  unfold tryGet Cache.value at h
  cases hf : Cache.find? T key with
  | none => simp [hf] at h
  | some it =>
    simp only [hf, canon_validUntilChecked, Bool.true_and] at h
    split at h
    · cases h
    · rename_i hv
      exact ⟨it, find?_mem hf, by cases h; rfl, by simpa using hv⟩

/-- The entry was written by a miss of an earlier observation `o` for the same key and has the absolute expiry
`createdOn + lifeSpan`. -/
def ItemOk (F : Facts) (obs : List Obs) (key : Str) (it : Item Cached) : Prop :=
  ∃ o ∈ obs, mkKey F o.cert = key ∧ o.stored = some it.lifeSpan ∧ o.t = it.createdOn ∧ o.hit = false ∧
    it.data.validUntil = it.createdOn + it.lifeSpan ∧
    o.result = (if it.data.revoked then .revoked else .good)

/-- A hit is served from an earlier miss for the same key, within that entry's fixed lifetime. -/
def HitOk (F : Facts) (obs : List Obs) (o : Obs) : Prop :=
  o.hit = true → ∃ o' ∈ obs, o'.seq < o.seq ∧ o'.hit = false ∧ mkKey F o'.cert = mkKey F o.cert ∧
      ∃ L, o'.stored = some L ∧ o'.t ≤ o.t ∧ o.t ≤ o'.t + L ∧ o.result = o'.result

structure Inv (F : Facts) (w : World) (obs : List Obs) : Prop where
  items : ∀ p ∈ w.table, ItemOk F obs p.1 p.2
  history : ∀ o ∈ obs, o.seq < w.count ∧ o.t ≤ w.now ∧ HitOk F obs o

theorem ItemOk.mono {F : Facts} {obs obs' : List Obs} {key : Str} {a : Item Cached}
    (h : ItemOk F obs key a) (hsub : obs ⊆ obs') : ItemOk F obs' key a :=
  let ⟨o, ho, rest⟩ := h; ⟨o, hsub ho, rest⟩

theorem HitOk.mono {F : Facts} {obs obs' : List Obs} {o : Obs} (h : HitOk F obs o) (hsub : obs ⊆ obs') :
    HitOk F obs' o := fun hh =>
  let ⟨o', ho', rest⟩ := h hh; ⟨o', hsub ho', rest⟩

theorem step_inv (skew : Nat) (w : World) (obs : List Obs) (e : Event) (hinv : Inv (canon skew) w obs) :
    Inv (canon skew) (step (canon skew) V w e).1 (obs ++ (step (canon skew) V w e).2.toList) := by
  obtain ⟨htab, hobs⟩ := hinv
  cases e with
  | advance dt =>
    rw [step, Option.toList_none, List.append_nil]
    exact ⟨htab, fun o ho => ⟨(hobs o ho).1, Nat.le_trans (hobs o ho).2.1 (Nat.le_add_right ..), (hobs o ho).2.2⟩⟩
  | sweep =>
    rw [step, Option.toList_none, List.append_nil]
    exact ⟨fun p hp => htab p (List.mem_filter.mp hp).1, hobs⟩
  | flush =>
    rw [step, Option.toList_none, List.append_nil]
    exact ⟨fun _ h => absurd h List.not_mem_nil, hobs⟩
  | look inst cert cands answer =>
    simp only [step, Option.toList_some]
    -- `ob` stays opaque so that `hold` and `hobs'` are stated once; each of the three cases below substitutes its concrete
    -- observation (and then `ob.seq = w.count`, `ob.t = w.now` hold by `rfl`)
    generalize hob : obsOf w inst cert (lookup (canon skew) V inst cert cands answer w.now w.table) = ob
    have hsub : obs ⊆ obs ++ [ob] := List.subset_append_left ..
    -- items that were in the table before are still vouched for, whatever `tryGet` did to their access times
    have hold : ∀ T' rv?, tryGet (canon skew) w.table (mkKey (canon skew) cert) w.now = (rv?, T') →
        ∀ x ∈ T', ItemOk (canon skew) (obs ++ [ob]) x.1 x.2 := by
      intro T' rv? hT x hx
      obtain ⟨y, hy, t, rfl⟩ := mem_tryGet (F := canon skew) (show x ∈ (tryGet _ _ _ _).2 by rw [hT]; exact hx)
      exact (htab y hy).mono hsub
    have hobs' : ob.seq = w.count → ob.t = w.now → HitOk (canon skew) (obs ++ [ob]) ob →
        ∀ o ∈ obs ++ [ob], o.seq < w.count + 1 ∧ o.t ≤ w.now ∧ HitOk (canon skew) (obs ++ [ob]) o := by
      intro h1 h2 h3 o ho
      rcases List.mem_append.mp ho with h | h
      · exact ⟨Nat.lt_succ_of_lt (hobs o h).1, (hobs o h).2.1, (hobs o h).2.2.mono hsub⟩
      · cases List.mem_singleton.mp h
        exact ⟨h1 ▸ Nat.lt_succ_self _, h2 ▸ Nat.le_refl _, h3⟩
    rcases lookup_cases V skew cert cands answer w.now w.table with
      ⟨rv, T', h⟩ | ⟨T', h, ⟨pre, q, post, p, hl, hpre, hq⟩ | hall⟩
    · rw [lookup_hit V h] at hob ⊢
      subst hob
      refine ⟨hold T' _ h, hobs' rfl rfl fun _ => ?_⟩
      obtain ⟨it, hit, hrv, hvu⟩ := tryGet_hit h
      obtain ⟨o', ho', h1, h2, h3, h4, h5, h6⟩ := htab _ hit
      exact ⟨o', hsub ho', (hobs o' ho').1, h4, h1, it.lifeSpan, h2, (hobs o' ho').2.1, by rw [h3, ← h5]; exact hvu,
        by rw [h6, hrv]; rfl⟩
    · rw [lookup_answered V h hl hpre hq] at hob ⊢
      subst hob
      refine ⟨fun x hx => ?_, hobs' rfl rfl (fun hh => by cases hh)⟩
      dsimp only at hx
      split at hx
      · rename_i hL
        rcases List.mem_cons.mp hx with rfl | hx
        · -- the new item is vouched for by this very observation
          exact ⟨_, List.mem_append_right _ (List.mem_singleton_self _), rfl, if_pos hL, rfl, rfl, rfl,
            by simp only [obsOf, verdictOf, decide_eq_true_eq]⟩
        · exact hold T' _ h x (List.mem_filter.mp hx).1
      · exact hold T' _ h x hx
    · rw [lookup_unanswered V h hall] at hob ⊢
      subst hob
      exact ⟨hold T' _ h, hobs' rfl rfl (fun hh => by cases hh)⟩

theorem run_inv (skew : Nat) (evs : List Event) :
    Inv (canon skew) (exec (canon skew) V {} evs).1 (exec (canon skew) V {} evs).2 :=
  exec_invariant V (Inv (canon skew)) (step_inv V skew) evs {} []
    ⟨fun _ h => absurd h List.not_mem_nil, fun _ h => absurd h List.not_mem_nil⟩

end Crv.Ocsp
