import Crv.Config
/-! Helper lemmas for C19 that hold for any facts: here `L : LoadFacts`, `B : BlockFacts F` are variables. -/

namespace Crv.Config

namespace Res
@[simp] theorem bind_ok {α β : Type} (a : α) (f : α → Res β) : (Res.ok a).bind f = f a := rfl
@[simp] theorem bind_error {α β : Type} (f : α → Res β) : (Res.error : Res α).bind f = .error := rfl
@[simp] theorem bind_panic {α β : Type} (f : α → Res β) : (Res.panic : Res α).bind f = .panic := rfl
@[simp] theorem map_ok {α β : Type} (a : α) (f : α → β) : (Res.ok a).map f = .ok (f a) := rfl
@[simp] theorem map_error {α β : Type} (f : α → β) : (Res.error : Res α).map f = .error := rfl
@[simp] theorem map_panic {α β : Type} (f : α → β) : (Res.panic : Res α).map f = .panic := rfl
theorem map_map {α β γ : Type} (r : Res α) (f : α → β) (g : β → γ) : (r.map f).map g = r.map (g ∘ f) := by
  cases r <;> rfl
theorem bind_eq_ok {α β : Type} (r : Res α) (f : α → Res β) (b : β) :
    r.bind f = .ok b ↔ ∃ a, r = .ok a ∧ f a = .ok b := by
  cases r <;> simp [bind]
theorem map_eq_ok {α β : Type} (r : Res α) (f : α → β) (b : β) :
    r.map f = .ok b ↔ ∃ a, r = .ok a ∧ f a = b := by
  cases r <;> simp [map]
theorem bind_ne_panic {α β : Type} (r : Res α) (f : α → Res β) (h : r ≠ .panic)
    (hf : ∀ a, r = .ok a → f a ≠ .panic) : r.bind f ≠ .panic := by
  cases r with
  | ok a => exact hf a rfl
  | error => simp [bind]
  | panic => exact absurd rfl h
theorem map_ne_panic {α β : Type} (r : Res α) (f : α → β) (h : r ≠ .panic) : r.map f ≠ .panic := by
  cases r <;> simp_all [map]
theorem isOk_iff {α : Type} (r : Res α) : r.isOk = true ↔ ∃ a, r = .ok a := by
  cases r <;> simp [isOk]
theorem isOk_map {α β : Type} (r : Res α) (f : α → β) : (r.map f).isOk = r.isOk := by
  cases r <;> rfl
theorem not_isOk_map {α β : Type} (r : Res α) (f : α → β) (h : ¬ r.isOk) : ¬ (r.map f).isOk :=
  isOk_map r f ▸ h
theorem not_isOk_bind {α β : Type} (r : Res α) (f : α → Res β) (h : ¬ r.isOk) : ¬ (r.bind f).isOk := by
  cases r <;> simp_all [isOk, bind]
theorem not_isOk_bind_right {α β : Type} (r : Res α) (f : α → Res β) (h : ∀ a, ¬ (f a).isOk) : ¬ (r.bind f).isOk := by
  cases r with
  | ok a => exact h a
  | error => exact Bool.false_ne_true
  | panic => exact Bool.false_ne_true
theorem bind_assoc {α β γ : Type} (r : Res α) (f : α → Res β) (g : β → Res γ) :
    (r.bind f).bind g = r.bind fun a => (f a).bind g := by
  cases r <;> rfl
theorem bind_map {α β γ : Type} (r : Res α) (f : α → β) (g : β → Res γ) : (r.map f).bind g = r.bind fun a => g (f a) := by
  cases r <;> rfl
theorem map_bind {α β γ : Type} (r : Res α) (f : α → Res β) (g : β → γ) : (r.bind f).map g = r.bind fun a => (f a).map g := by
  cases r <;> rfl
theorem eq_of_ok_iff {α : Type} {r₁ r₂ : Res α} (h₁ : r₁ ≠ .panic) (h₂ : r₂ ≠ .panic)
    (h : ∀ a, r₁ = .ok a ↔ r₂ = .ok a) : r₁ = r₂ := by
  cases r₁ with
  | ok a => exact ((h a).mp rfl).symm
  | panic => exact absurd rfl h₁
  | error =>
    cases r₂ with
    | ok a => exact (h a).mpr rfl
    | error => rfl
    | panic => exact absurd rfl h₂
theorem ite_eq_ok {α : Type} (c : Prop) [Decidable c] (a b : α) :
    (if c then Res.ok a else Res.error) = .ok b ↔ c ∧ a = b := by
  split <;> simp [*]
theorem eq_error {α : Type} {r : Res α} (h₁ : ¬ r.isOk) (h₂ : r ≠ .panic) : r = .error := by
  cases r with
  | ok a => exact absurd rfl h₁
  | error => rfl
  | panic => exact absurd rfl h₂
end Res

/-! ### The step interpreters and the Caddyfile path as `bind` chains

The right sides are written `fun st' => run… ps st'` so that `simp only` can go on under the binder. -/
section
variable (L : LoadFacts) (env : Env)

theorem runPSteps_cons (p : PStep) (ps : List PStep) (st : VState) :
    runPSteps L env (p :: ps) st = (pStep L env st p).bind fun st' => runPSteps L env ps st' := by
  rw [runPSteps]; cases pStep L env st p <;> rfl

theorem runParseSteps_cons (p : ParseStep) (ps : List ParseStep) (st : VState) :
    runParseSteps L env (p :: ps) st = (parseStep L env st p).bind fun st' => runParseSteps L env ps st' := by
  rw [runParseSteps]; cases parseStep L env st p <;> rfl

theorem runUSteps_cons (parsed : RawCfg) (u : UStep) (us : List UStep) (st : VState) :
    runUSteps L env parsed (u :: us) st = (uStep L env parsed st u).bind fun st' => runUSteps L env parsed us st' := by
  rw [runUSteps]; cases uStep L env parsed st u <;> rfl

-- One record for both branches of the model's `if` (`true || _ = true`, `false || b = b`), so that the next steps
-- see a literal state.
theorem pStep_allocCrl (st : VState) : pStep L env st .allocCrlIfEnabled =
    .ok { st with crlChecker := L.crlEnabled st.modeParsed || st.crlChecker } := by
  unfold pStep; cases L.crlEnabled st.modeParsed <;> rfl
end

theorem unmarshalCaddyfile_eq (Fx : Facts) (env : Env) (toks : List Tok) : unmarshalCaddyfile Fx env toks =
    (parseCaddyfile Fx.caddy toks).bind fun parsed =>
      runUSteps Fx.load env parsed Fx.load.unmarshalSteps (VState.zero Fx.load) := by
  unfold unmarshalCaddyfile; cases parseCaddyfile Fx.caddy toks <;> rfl

theorem loadCaddyfile_eq (Fx : Facts) (env : Env) (toks : List Tok) : loadCaddyfile Fx env toks =
    (unmarshalCaddyfile Fx env toks).bind fun st => (provision Fx.load env st).map VState.effective := by
  unfold loadCaddyfile; cases unmarshalCaddyfile Fx env toks <;> rfl

theorem load_not_ok_of_parse (Fx : Facts) (env : Env) (toks : List Tok) (h : ¬ (parseCaddyfile Fx.caddy toks).isOk) :
    ¬ (loadCaddyfile Fx env toks).isOk := by
  rw [loadCaddyfile_eq, unmarshalCaddyfile_eq]
  exact Res.not_isOk_bind _ _ (Res.not_isOk_bind _ _ h)

theorem optRes_eq_ok {α : Type} (o : Option α) (a : α) : optRes o = .ok a ↔ o = some a := by
  cases o <;> simp [optRes]

theorem optRes_ne_panic {α : Type} (o : Option α) : optRes o ≠ .panic := by cases o <;> simp [optRes]

theorem length_pos_iff_ne_empty (s : String) : s.length > 0 ↔ s ≠ "" :=
  Nat.pos_iff_ne_zero.trans (not_congr String.length_eq_zero_iff)

theorem parseDurationField_eq_ok (env : Env) (s : String) (dflt d : Int) (pos : Bool) :
    parseDurationField env s dflt pos = .ok d ↔
      (s = "" → d = dflt) ∧ (s ≠ "" → env.dur s = some d ∧ (pos = true → 0 < d)) := by
  unfold parseDurationField
  by_cases h : s = ""
  · subst h; simp [eq_comm]
  · simp only [(length_pos_iff_ne_empty s).mpr h, if_true, h, false_imp_iff, true_and, ne_eq, not_false_eq_true,
      true_imp_iff]
    cases env.dur s with
    | none => simp
    | some d' =>
      cases pos
      · simp
      · by_cases hp : d' ≤ 0 <;> simp [hp] <;> intro h <;> omega

theorem parseDurationField_ok_of_valid (env : Env) (s : String) (dflt : Int) (pos : Bool)
    (h : s = "" ∨ ∃ d, env.dur s = some d ∧ (pos = true → 0 < d)) :
    ∃ d, parseDurationField env s dflt pos = .ok d := by
  by_cases he : s = ""
  · exact ⟨dflt, (parseDurationField_eq_ok ..).mpr ⟨fun _ => rfl, fun n => absurd he n⟩⟩
  · rcases h with h | ⟨d, hd, hp⟩
    · exact absurd h he
    · exact ⟨d, (parseDurationField_eq_ok ..).mpr ⟨fun e => absurd e he, fun _ => ⟨hd, hp⟩⟩⟩

theorem parseDurationField_ne_panic (env : Env) (s : String) (d : Int) (pos : Bool) :
    parseDurationField env s d pos ≠ .panic := by
  fun_cases parseDurationField env s d pos <;> nofun

theorem crlProvision_eq_ok (env : Env) (ec : EffCrl) :
    crlProvision env ec = .ok () ↔ (ec.urls.all env.crlOk = true ∧ ec.files.all env.crlOk = true ∧ 0 < ec.intervalNs) := by
  unfold crlProvision
  cases hu : ec.urls.all env.crlOk <;> cases hf : ec.files.all env.crlOk <;> simp

theorem crlProvision_ne_panic (env : Env) (ec : EffCrl) (h : 0 < ec.intervalNs) : crlProvision env ec ≠ .panic := by
  fun_cases crlProvision env ec
  · nofun
  · omega
  · nofun

section
variable {F σ : Type} (B : BlockFacts F) (S : Setters F σ)

theorem parseBlock_cons (t : Tok) (ts : List Tok) (s : σ) :
    parseBlock B S (t :: ts) s = (procEntry B S t s).bind (parseBlock B S ts) := by
  simp only [parseBlock]; cases procEntry B S t s <;> rfl

theorem parseBlock_append (xs ys : List Tok) (s : σ) :
    parseBlock B S (xs ++ ys) s = (parseBlock B S xs s).bind (parseBlock B S ys) := by
  induction xs generalizing s with
  | nil => rfl
  | cons t ts ih =>
    simp only [List.cons_append, parseBlock_cons]
    cases procEntry B S t s <;> simp [ih]

/-- Not necessarily `error`: an earlier line may have panicked. -/
theorem parseBlock_not_ok_of_entry (pre post : List Tok) (t : Tok)
    (h : ∀ s, ¬ (procEntry B S t s).isOk) (s : σ) : ¬ (parseBlock B S (pre ++ t :: post) s).isOk := by
  rw [parseBlock_append]
  exact Res.not_isOk_bind_right _ _ fun s' => parseBlock_cons B S t post s' ▸ Res.not_isOk_bind _ _ (h s')

theorem parseBlock_swap (pre post : List Tok) (t₁ t₂ : Tok) (s : σ)
    (h : ∀ s, (procEntry B S t₁ s).bind (procEntry B S t₂) = (procEntry B S t₂ s).bind (procEntry B S t₁)) :
    parseBlock B S (pre ++ t₁ :: t₂ :: post) s = parseBlock B S (pre ++ t₂ :: t₁ :: post) s := by
  have e : ∀ a b s, parseBlock B S (a :: b :: post) s =
      ((procEntry B S a s).bind (procEntry B S b)).bind (parseBlock B S post) := fun a b s => by
    rw [parseBlock_cons, Res.bind_assoc]
    exact congrArg _ (funext fun s₁ => parseBlock_cons B S b post s₁)
  rw [parseBlock_append, parseBlock_append]
  exact congrArg _ (funext fun s' => by rw [e, e, h])

theorem lookupKey_none (k : String) (keys : List (String × Act F)) (h : k ∉ keys.map Prod.fst) :
    lookupKey k keys = none := by
  fun_induction lookupKey k keys with
  | case1 => rfl
  | case2 a rest => exact absurd List.mem_cons_self h
  | case3 k' a rest hk ih => exact ih fun hm => h (List.mem_cons_of_mem _ hm)

theorem lookupKey_mem {k : String} {a : Act F} {keys : List (String × Act F)} (h : lookupKey k keys = some a) :
    (k, a) ∈ keys := by
  fun_induction lookupKey k keys with
  | case1 => cases h
  | case2 a' rest => cases h; exact List.mem_cons_self
  | case3 k' a' rest hk ih => exact List.mem_cons_of_mem _ (ih h)

theorem procEntry_unknown {key : String} (h : lookupKey key B.keys = none) (hd : B.hasDefault = true)
    (args : List String) (blk : Option (List Tok)) (s : σ) :
    procEntry B S (.entry key args blk) s = .error := by
  simp [procEntry, procWords, h, hd]

theorem procEntry_line_str {k : String} {f : F} (h : lookupKey k B.keys = some (.str f)) (v : String) (s : σ) :
    procEntry B S (line k v) s = .ok (assign B (S.setStr f v) s) := by
  simp [procEntry, line, procWords, h]

theorem procEntry_line_append {k : String} {f : F} (h : lookupKey k B.keys = some (.append f)) (v : String) (s : σ) :
    procEntry B S (line k v) s = .ok (assign B (S.append f v) s) := by
  simp [procEntry, line, procWords, h]

theorem procEntry_line_bool {k : String} {f : F} (h : lookupKey k B.keys = some (.parsedBool f)) (v : String) (s : σ) :
    procEntry B S (line k v) s = match parseBoolGo v with
      | some b => .ok (assign B (S.setBool f b) s)
      | none => .error := by
  simp only [procEntry, line, procWords, h]
  cases parseBoolGo v <;> simp

theorem procEntry_block {k : String} {f : F} (h : lookupKey k B.keys = some (.sub f)) (blk : List Tok) (s : σ) :
    procEntry B S (.entry k [] (some blk)) s = (S.sub f blk).map (fun g => assign B g s) := by
  simp only [procEntry, procWords, h, Option.getD_some]
  cases S.sub f blk <;> rfl

theorem procEntry_block_not_ok {k : String} {f : F} (h : lookupKey k B.keys = some (.sub f)) (blk : List Tok)
    (hs : ¬ (S.sub f blk).isOk) (s : σ) : ¬ (procEntry B S (.entry k [] (some blk)) s).isOk := by
  rw [procEntry_block B S h]
  exact Res.not_isOk_map _ _ hs

theorem parseBlock_unknown_not_ok (hd : B.hasDefault = true) {key : String} (h : key ∉ B.keys.map Prod.fst)
    {pre post : List Tok} {args : List String} {blk : Option (List Tok)} {s : σ} :
    ¬ (parseBlock B S (pre ++ .entry key args blk :: post) s).isOk :=
  parseBlock_not_ok_of_entry B S pre post _ (fun s => by
    rw [procEntry_unknown B S (lookupKey_none key _ h) hd]; exact Bool.false_ne_true) s

theorem parseBlock_sub_not_ok {k : String} {f : F} (hk : lookupKey k B.keys = some (.sub f)) {blk : List Tok}
    (hs : ¬ (S.sub f blk).isOk) {pre post : List Tok} {s : σ} :
    ¬ (parseBlock B S (pre ++ .entry k [] (some blk) :: post) s).isOk :=
  parseBlock_not_ok_of_entry B S pre post _ (procEntry_block_not_ok B S hk blk hs) s

theorem parseBoolGo_boolStr (b : Bool) : parseBoolGo (boolStr b) = some b := by
  cases b <;> decide

theorem parseBlock_optLine_str {k : String} {f : F} (h : lookupKey k B.keys = some (.str f))
    (o : Option String) (rest : List Tok) (s : σ) :
    parseBlock B S (optLine k o ++ rest) s =
      parseBlock B S rest (match o with | none => s | some v => assign B (S.setStr f v) s) := by
  cases o with
  | none => rfl
  | some v => simp [optLine, parseBlock_cons, procEntry_line_str B S h]

theorem parseBlock_optLine_bool {k : String} {f : F} (h : lookupKey k B.keys = some (.parsedBool f))
    (o : Option Bool) (rest : List Tok) (s : σ) :
    parseBlock B S (optLine k (o.map boolStr) ++ rest) s =
      parseBlock B S rest (match o with | none => s | some b => assign B (S.setBool f b) s) := by
  cases o with
  | none => rfl
  | some b => simp [optLine, parseBlock_cons, procEntry_line_bool B S h, parseBoolGo_boolStr]

theorem parseBlock_lines_append {k : String} {f : F} (h : lookupKey k B.keys = some (.append f))
    (l : List String) (rest : List Tok) (s : σ) :
    parseBlock B S (l.map (line k) ++ rest) s =
      parseBlock B S rest (l.foldl (fun s v => assign B (S.append f v) s) s) := by
  induction l generalizing s with
  | nil => rfl
  | cons v vs ih => simp [parseBlock_cons, procEntry_line_append B S h, ih]

end

end Crv.Config
