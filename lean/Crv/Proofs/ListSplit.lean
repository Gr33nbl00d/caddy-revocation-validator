/-! Splitting a list at a separator: used for the injectivity of keys of the form `prefix ++ sep :: decimal`. -/
namespace Crv

theorem split_unique {α : Type} {x : α} :
    ∀ {a a' b b' : List α}, x ∉ b → x ∉ b' → a ++ x :: b = a' ++ x :: b' → a = a' ∧ b = b' := by
  intro a
  induction a with
  | nil =>
    intro a' b b' hb _ h
    cases a' with
    | nil => exact ⟨rfl, (List.cons.inj h).2⟩
    | cons _ a' => exact absurd ((List.cons.inj h).2 ▸ List.mem_append_right a' List.mem_cons_self) hb
  | cons _ a ih =>
    intro a' b b' hb hb' h
    cases a' with
    | nil => exact absurd ((List.cons.inj h).2 ▸ List.mem_append_right a List.mem_cons_self) hb'
    | cons _ a' =>
      obtain ⟨h1, h2⟩ := ih hb hb' (List.cons.inj h).2
      exact ⟨(List.cons.inj h).1 ▸ h1 ▸ rfl, h2⟩

end Crv
