import Crv.PathsWalk
/-!
The start-up clean-up as a `filepath.Walk` (`walkSweep`) against the idealised filter (`sweep`): with the callback shape of
the source the walk visits every child of work_dir and the two agree; with a callback that returns `SkipDir` for files, or
one that descends into directories it has just removed, they do not.
-/
namespace Crv.Paths
open Crv.Generated

theorem nameLe_refl : ∀ a : Name, nameLe a a = true
  | [] => rfl
  | a :: as => by simp [nameLe, nameLe_refl as]

theorem nameLe_cons (a b : UInt8) (as bs : Name) :
    nameLe (a :: as) (b :: bs) = true ↔ a < b ∨ (a = b ∧ nameLe as bs = true) := by
  simp only [nameLe]
  by_cases h1 : a < b
  · simp [h1]
  · by_cases h2 : a = b <;> simp [h1, h2]

theorem nameLe_total : ∀ a b : Name, (nameLe a b || nameLe b a) = true
  | [], _ => by simp [nameLe]
  | _ :: _, [] => by simp [nameLe]
  | a :: as, b :: bs => by
    rw [Bool.or_eq_true, nameLe_cons, nameLe_cons]
    by_cases h : a = b
    · subst h
      exact (Bool.or_eq_true _ _ ▸ nameLe_total as bs).imp (fun h => Or.inr ⟨rfl, h⟩) (fun h => Or.inr ⟨rfl, h⟩)
    · exact (UInt8.lt_or_lt_of_ne h).imp Or.inl Or.inl

theorem nameLe_trans : ∀ a b c : Name, nameLe a b = true → nameLe b c = true → nameLe a c = true
  | [], _, _, _, _ => by simp [nameLe]
  | _ :: _, [], _, h, _ => by simp [nameLe] at h
  | _ :: _, _ :: _, [], _, h => by simp [nameLe] at h
  | a :: as, b :: bs, c :: cs, hab, hbc => by
    rw [nameLe_cons] at hab hbc ⊢
    rcases hab with h1 | ⟨rfl, h1⟩ <;> rcases hbc with h2 | ⟨rfl, h2⟩
    · exact Or.inl (UInt8.lt_trans h1 h2)
    · exact Or.inl h1
    · exact Or.inl h2
    · exact Or.inr ⟨rfl, nameLe_trans as bs cs h1 h2⟩

/-- Walk visits the children of work_dir: the same entries (with multiplicity) as the listing … -/
theorem sortedChildren_perm (fs : Fs) : (sortedChildren fs).Perm fs := List.mergeSort_perm fs entryLe

/-- … in byte-wise lexical order of their names. -/
theorem sortedChildren_sorted (fs : Fs) : (sortedChildren fs).Pairwise (fun a b => nameLe a.1 b.1 = true) :=
  List.pairwise_mergeSort (le := entryLe) (fun a b c => nameLe_trans a.1 b.1 c.1) (fun a b => nameLe_total a.1 b.1) fs

theorem guard_nonroot (x : Node) : guardApplies "nonroot" x = true := by simp [guardApplies]
theorem guard_dir_nonroot (x : Node) : guardApplies "dir-nonroot" x = !x.isFile := by simp [guardApplies]
theorem guard_never (x : Node) : guardApplies "never" x = false := by simp [guardApplies]

/-- `hskip`: no `SkipDir` for a file; `hdesc`: no descent into a directory just removed. -/
theorem walkDeleted_of_no_stop (d s : String) (F : Facts) (l : List (Name × Node))
    (hdel : ∀ e ∈ l, guardApplies d e.2 = true)
    (hskip : ∀ e ∈ l, (guardApplies s e.2 && e.2.isFile) = false)
    (hdesc : ∀ e ∈ l, (!guardApplies s e.2 && !e.2.isFile && matchesTemp F e.1) = false) :
    walkDeleted d s F l = (l.filter (fun e => matchesTemp F e.1)).map (·.1) := by
  induction l with
  | nil => rfl
  | cons e rest ih =>
    have ih' := ih (fun e he => hdel e (List.mem_cons_of_mem _ he)) (fun e he => hskip e (List.mem_cons_of_mem _ he))
      (fun e he => hdesc e (List.mem_cons_of_mem _ he))
    have h3 := hdesc e (List.mem_cons_self ..)
    simp only [walkDeleted, hdel e (List.mem_cons_self ..), hskip e (List.mem_cons_self ..), Bool.true_and, ih',
      List.filter_cons]
    cases hm : matchesTemp F e.1
    · simp
    · rw [hm, Bool.and_true] at h3; simp [h3]

/-- With the guards "nonroot" / "dir-nonroot" the walk never stops early: every child is visited, and exactly the children
whose name matches the pattern are removed. -/
theorem walk_visits_every_child (F : Facts) (l : List (Name × Node)) :
    walkDeleted "nonroot" "dir-nonroot" F l = (l.filter (fun e => matchesTemp F e.1)).map (·.1) :=
  walkDeleted_of_no_stop _ _ F l (fun _ _ => guard_nonroot _) (fun e _ => by simp [guard_dir_nonroot])
    (fun e _ => by simp [guard_dir_nonroot])

theorem walkSweep_eq_sweep (d s : String) (F : Facts)
    (h : ∀ l, walkDeleted d s F l = (l.filter (fun e => matchesTemp F e.1)).map (·.1)) (fs : Fs) :
    walkSweep d s F fs = sweep F fs := by
  unfold walkSweep sweep
  apply List.filter_congr
  intro e he
  rw [h]
  congr 1
  -- `e` itself is among the visited children, and every removed name belongs to a matching child
  rw [Bool.eq_iff_iff, List.contains_iff_mem, List.mem_map]
  constructor
  · rintro ⟨e', he', e1⟩; exact e1 ▸ (List.mem_filter.mp he').2
  · exact fun hm => ⟨e, List.mem_filter.mpr ⟨List.mem_mergeSort.mpr he, hm⟩, rfl⟩

theorem walk_guards_canonical : walkDeleteGuard = "nonroot" ∧ walkSkipGuard = "dir-nonroot" := ⟨rfl, rfl⟩

theorem startup_walk_is_sweep (F : Facts) (fs : Fs) : startupSweep F fs = sweep F fs := by
  unfold startupSweep
  rw [walk_guards_canonical.1, walk_guards_canonical.2]
  exact walkSweep_eq_sweep _ _ F (walk_visits_every_child F) fs

/-- A callback that never returns `SkipDir` (Walk descends into every directory) still removes every matching child as
long as no *directory* in work_dir carries a temp name. -/
theorem walk_never_skip_without_temp_dirs (F : Facts) (l : List (Name × Node))
    (hd : ∀ e ∈ l, matchesTemp F e.1 = true → e.2.isFile = true) :
    walkDeleted "nonroot" "never" F l = (l.filter (fun e => matchesTemp F e.1)).map (·.1) :=
  walkDeleted_of_no_stop _ _ F l (fun _ _ => guard_nonroot _) (fun e _ => by simp [guard_never])
    (fun e he => by
      cases hm : matchesTemp F e.1
      · simp
      · simp [hd e he hm])

def residueFs : Fs :=
  [([97], .file),                                                  -- "a"
   ([99, 114, 108, 95, 120, 95, 116, 109, 112], .dir [])]          -- "crl_x_tmp"

theorem residueFs_sorted : sortedChildren residueFs = residueFs :=
  List.mergeSort_of_pairwise (by decide)

/-- A callback that returns `SkipDir` for every entry: the plain file "a" is visited first and ends the walk, the
temp-named directory "crl_x_tmp" behind it survives. -/
theorem skip_on_files_leaves_residue :
    walkSweep "nonroot" "nonroot" pathFacts residueFs = residueFs ∧
    walkSweep "nonroot" "nonroot" pathFacts residueFs ≠ sweep pathFacts residueFs := by
  unfold walkSweep
  rw [residueFs_sorted]
  decide +kernel

def abortFs : Fs :=
  [([99, 114, 108, 95, 97, 95, 116, 109, 112], .dir []),           -- "crl_a_tmp"
   ([99, 114, 108, 95, 98, 95, 116, 109, 112], .file)]             -- "crl_b_tmp"

theorem abortFs_sorted : sortedChildren abortFs = abortFs :=
  List.mergeSort_of_pairwise (by decide)

/-- A callback that never returns `SkipDir`: the temp-named directory is removed, Walk descends into it, `lstat` fails,
the callback returns the error and the walk is over — the temp-named file behind it survives. -/
theorem descent_into_removed_dir_leaves_residue :
    walkSweep "nonroot" "never" pathFacts abortFs = [([99, 114, 108, 95, 98, 95, 116, 109, 112], .file)] ∧
    sweep pathFacts abortFs = [] := by
  unfold walkSweep
  rw [abortFs_sorted]
  decide +kernel

theorem delete_dirs_only_leaves_files :
    walkSweep "dir-nonroot" "dir-nonroot" pathFacts abortFs = [([99, 114, 108, 95, 98, 95, 116, 109, 112], .file)] := by
  unfold walkSweep
  rw [abortFs_sorted]
  decide +kernel

end Crv.Paths
