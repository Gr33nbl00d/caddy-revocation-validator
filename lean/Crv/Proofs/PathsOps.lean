import Crv.Generated.Paths
import Crv.Proofs.PathsFs
/-!
`loadCRL` / `updateCrlEntry` as regenerated from the source (`Crv.Generated.pathFacts`). Both programs are evaluated once
into one function of the scenario (`opSteps`); every scenario then has one of two shapes (`Shape`), and what a complete run
leaves behind, what every crash point looks like and which handles stay open are consequences of the shape.
-/
namespace Crv.Paths
open Crv.Generated

/-- Names of one operation: pairwise different, and the three temporary ones are not in the listing yet. -/
structure NamesOk (sc : Scn) (f : FsF) : Prop where
  ts : sc.t ≠ sc.s
  ta : sc.t ≠ sc.a
  sa : sc.s ≠ sc.a
  tid : sc.t ≠ sc.id
  sid : sc.s ≠ sc.id
  aid : sc.a ≠ sc.id
  ft : f sc.t = none
  fs : f sc.s = none
  fa : f sc.a = none

/-- The local variables of `loadCRL` / `updateCrlEntry` once the staged store exists. -/
def staging : CState := { store := true, target := .staged, defers := [.removeTempFile, .deleteStoreOnError] }

def abortSteps (sc : Scn) : List Step := runDefers sc staging true

def locPart (sc : Scn) (withLoc : Bool) : List Step :=
  if withLoc then onDisk sc [Step.put sc.s .locations sc.loc] else []

def swapPart (h2 h3 : String) (sc : Scn) : List Step :=
  Step.hit h2 :: (onDisk sc (swapSteps pathFacts sc) ++ Step.hit h3 :: runDefers sc staging false)

/-- From the signature check on (`ok`: the document verifies). Kept in the literal shape `compile` yields (`&& true` is the
generated `returnsOnFailureUnderVerify` flag, and `req && true` does not reduce for a variable `req`), so that `loadSteps_eq`
is `rfl`; `verifyPart_eq` is the readable form. -/
def verifyPart (h1 h2 h3 : String) (sc : Scn) (ok : Bool) : List Step :=
  if sc.sigChecked then
    Step.hit h1 :: (if ok then onDisk sc [Step.put sc.s .signer sc.loc] ++ swapPart h2 h3 sc
      else if sc.sigRequired && true then abortSteps sc else swapPart h2 h3 sc)
  else swapPart h2 h3 sc

def stageThen (sc : Scn) (withLoc : Bool) (ws : List (DbKey × Nat)) (k : List Step) : List Step :=
  onDisk sc [Step.mkStore sc.s] ++ (locPart sc withLoc ++ (onDisk sc (writeSteps pathFacts sc.s ws) ++ k))

/-- `loadCRL` and `updateCrlEntry` differ in the hook names and in whether the locations record is always written. -/
def opSteps (withLoc : Bool) (h1 h2 h3 : String) (sc : Scn) : List Step :=
  Step.mkFile sc.t :: Step.writeFile sc.t ::
    match sc.origin with
    | .down => [Step.rmFile sc.t]
    | .broken d j => stageThen sc withLoc ((headWrites d).take j) (abortSteps sc)
    | .doc d => stageThen sc withLoc (readWrites d) (verifyPart h1 h2 h3 sc d.sigOk)

-- The program is a fixed list: once the origin is known, `compile` evaluates to `opSteps` with the scenario left symbolic.
theorem loadSteps_eq (sc : Scn) : loadSteps pathFacts sc =
    opSteps sc.hasLoc "repo.load.sig-checked" "repo.load.before-swap" "repo.load.after-swap" sc := by
  obtain ⟨disk, chk, req, origin, id, hasLoc, loc, t, s, a⟩ := sc
  cases origin <;> rfl

theorem refreshSteps_eq (sc : Scn) : refreshSteps pathFacts sc =
    opSteps true "repo.refresh.sig-checked" "repo.refresh.before-swap" "repo.refresh.after-swap" sc := by
  obtain ⟨disk, chk, req, origin, id, hasLoc, loc, t, s, a⟩ := sc
  cases origin <;> rfl

def rejects (sc : Scn) (ok : Bool) : Bool := sc.sigChecked && sc.sigRequired && !ok

def sigPart (h1 : String) (sc : Scn) (ok : Bool) : List Step :=
  (if sc.sigChecked then [h1] else []).map Step.hit ++
    onDisk sc (if sc.sigChecked && ok then [Step.put sc.s .signer sc.loc] else [])

@[simp] theorem onDisk_nil (sc : Scn) : onDisk sc [] = [] := by simp [onDisk]

theorem verifyPart_eq (h1 h2 h3 : String) (sc : Scn) (ok : Bool) : verifyPart h1 h2 h3 sc ok =
    if rejects sc ok then Step.hit h1 :: abortSteps sc else sigPart h1 sc ok ++ swapPart h2 h3 sc := by
  cases hc : sc.sigChecked <;> cases hr : sc.sigRequired <;> cases ok <;> simp [verifyPart, rejects, sigPart, hc, hr]

theorem accepted_doc (sc : Scn) (d : Doc) (ho : sc.origin = .doc d) :
    accepted sc = if rejects sc d.sigOk then none else some d := by
  simp [accepted, ho, rejects]

theorem abortSteps_eq (sc : Scn) : abortSteps sc = Step.rmFile sc.t :: onDisk sc [Step.closeDb sc.s, Step.rmAll sc.s] := by
  simp [abortSteps, runDefers, staging]

theorem swapPart_eq (h2 h3 : String) (sc : Scn) :
    swapPart h2 h3 sc = Step.hit h2 :: (onDisk sc (swapSteps pathFacts sc) ++ [Step.hit h3, Step.rmFile sc.t]) := by
  simp [swapPart, runDefers, staging]

/-- Image of the staged store after the locations record. -/
def img0 (sc : Scn) (withLoc : Bool) : DbImage := if withLoc then DbImage.put [] .locations sc.loc else []

theorem runF_stageThen (sc : Scn) (hd : sc.disk = true) (wl : Bool) (ws : List (DbKey × Nat)) (k : List Step) (f : FsF) :
    runF (stageThen sc wl ws k) f = runF k (upd f sc.s (some (.dir (writeAll (img0 sc wl) ws)))) := by
  have h2 : runF (locPart sc wl) (upd f sc.s (some (.dir []))) = upd f sc.s (some (.dir (img0 sc wl))) := by
    cases wl <;> simp [locPart, onDisk, hd, img0, applyF_put_of_dir (upd_same ..)]
  simp only [stageThen, onDisk, hd, if_true, runF_append, runF_cons, runF_nil, applyF_mkStore, h2]
  rw [runF_writeSteps pathFacts sc.s ws _ (img0 sc wl) (upd_same ..), upd_upd_same]

/-- The staged store right before the swap. -/
def stagedOf (sc : Scn) (d : Doc) (withLoc : Bool) : DbImage := stagedImage sc d withLoc (sc.sigChecked && d.sigOk)

theorem runF_sigPart (h1 : String) (sc : Scn) (hd : sc.disk = true) (d : Doc) (wl : Bool) (g : FsF) :
    runF (sigPart h1 sc d.sigOk) (upd g sc.s (some (.dir (writeAll (img0 sc wl) (readWrites d))))) =
      upd g sc.s (some (.dir (stagedOf sc d wl))) := by
  rw [sigPart, runF_append, runF_hits]
  cases hs : sc.sigChecked && d.sigOk <;>
    simp [stagedOf, stagedImage, hs, onDisk, hd, applyF_put_of_dir (upd_same ..), writeAll, img0]

theorem swapSteps_eq (sc : Scn) : swapSteps pathFacts sc =
    [.closeDb sc.id, .hit "ldb.update.closed-old", .closeDb sc.s, .hit "ldb.update.closed-new", .rename sc.id sc.a,
     .hit "ldb.update.moved-old", .rename sc.s sc.id, .hit "ldb.update.moved-new", .rmAll sc.a, .hit "ldb.update.removed-old",
     .openStore sc.id, .hit "ldb.update.reopened"] := rfl

/-- Every crash point of `LevelDbStore.Update`: the live name holds the old store, nothing (between the two renames), or
the staged one. -/
theorem swap_prefixes (sc : Scn) (g : FsF) (old staged : Node)
    (hsid : sc.s ≠ sc.id) (haid : sc.a ≠ sc.id) (hsa : sc.s ≠ sc.a)
    (gid : g sc.id = some old) (gs : g sc.s = some staged) :
    AtEveryPrefix (fun g' => g' sc.id = some old ∨ g' sc.id = none ∨ g' sc.id = some staged) (swapSteps pathFacts sc) g := by
  simp [swapSteps_eq, atEveryPrefix_cons, atEveryPrefix_nil, Step.applyF, upd, gid, gs, hsid, haid.symm, hsa]

theorem runF_swapSteps (sc : Scn) (g : FsF) (staged : Node)
    (hsid : sc.s ≠ sc.id) (haid : sc.a ≠ sc.id) (hsa : sc.s ≠ sc.a) (gs : g sc.s = some staged) (ga : g sc.a = none) :
    runF (swapSteps pathFacts sc) g = upd (upd g sc.s none) sc.id (some staged) := by
  have gs' : upd (upd g sc.id none) sc.a (g sc.id) sc.s = some staged := by
    rw [upd_ne _ _ _ _ hsa, upd_ne _ _ _ _ hsid, gs]
  have gid' : ∀ h, upd (upd h sc.id (some staged)) sc.a none sc.id = some staged := fun h => by
    rw [upd_ne _ _ _ _ haid.symm, upd_same]
  simp only [swapSteps_eq, runF_cons, runF_nil, applyF_hit, applyF_closeDb, applyF_rename_vacant _ _ g ga,
    applyF_rename_of_some gs', applyF_rmAll, applyF_openStore_of_some (gid' _)]
  -- the old store went to `a` and `a` was removed: only `s` and `id` differ from `g`
  rw [upd_comm _ haid.symm, upd_comm _ hsa, upd_upd_same, upd_comm g haid.symm, upd_self _ _ _ ga, upd_comm g hsid.symm,
    upd_upd_same]

theorem touches_swapSteps (F : Facts) (sc : Scn) : Touches [sc.t, sc.s, sc.a, sc.id] (swapSteps F sc) := by
  intro st h
  obtain ⟨op, _, rfl⟩ := List.mem_map.mp h
  cases op <;> simp [updStep]

@[simp] theorem touches_onDisk {ns : List Name} (sc : Scn) {l : List Step} (h : Touches ns l) : Touches ns (onDisk sc l) := by
  unfold onDisk; split
  · exact h
  · exact touches_nil _

theorem touches_stageThen (sc : Scn) (wl : Bool) (ws : List (DbKey × Nat)) {k : List Step}
    (hk : Touches [sc.t, sc.s] k) : Touches [sc.t, sc.s] (stageThen sc wl ws k) := by
  cases wl <;> simp [stageThen, locPart, touches_writeSteps, hk]

theorem touches_sigPart (h1 : String) (sc : Scn) (ok : Bool) : Touches [sc.t, sc.s] (sigPart h1 sc ok) := by
  cases h : sc.sigChecked && ok <;> simp [sigPart, h]

theorem runHandles_sigPart (h1 : String) (sc : Scn) (ok : Bool) (h : List Name) : runHandles (sigPart h1 sc ok) h = h := by
  rw [sigPart, runHandles_append, runHandles_hits]
  unfold onDisk; split
  · split <;> rfl
  · rfl

/-- A load or refresh by what it means for work_dir and for the open handles: a part that touches only the two temporary
names, followed by nothing (then that part has no net effect) or by the swap (then the scenario is an accepted document
on disk and the part has built the complete staged image). -/
inductive Shape (sc : Scn) (withLoc : Bool) : List Step → Prop
  | noop (A : List Step) (names : Touches [sc.t, sc.s] A)
      (effect : ∀ f, NamesOk sc f → runF A f = f) (handles : ∀ h, ∀ n ∈ runHandles A h, n ∈ h) : Shape sc withLoc A
  | swap (A : List Step) (d : Doc) (h2 h3 : String) (names : Touches [sc.t, sc.s] A)
      (hd : sc.disk = true) (ha : accepted sc = some d)
      (effect : ∀ f, runF A f = upd (upd f sc.t (some .file)) sc.s (some (.dir (stagedOf sc d withLoc))))
      (handles : ∀ h, runHandles A h = addH h sc.s) : Shape sc withLoc (A ++ swapPart h2 h3 sc)

theorem shape_temp (sc : Scn) (wl : Bool) (hs : List String) :
    Shape sc wl (Step.mkFile sc.t :: Step.writeFile sc.t :: (hs.map Step.hit ++ [Step.rmFile sc.t])) := by
  refine .noop _ ?_ (fun f h => ?_) (fun h n hn => ?_)
  · simp
  · rw [runF_cons, runF_cons, runF_append, runF_hits, applyF_mkFile, applyF_writeFile, runF_cons, runF_nil,
      applyF_rmFile_of_file (upd_same ..), upd_upd_same, upd_self _ _ _ h.ft]
  · simpa [runHandles_append, Step.handles] using hn

theorem shape_abort (sc : Scn) (wl : Bool) (ws : List (DbKey × Nat)) (hs : List String) :
    Shape sc wl (Step.mkFile sc.t :: Step.writeFile sc.t :: stageThen sc wl ws (hs.map Step.hit ++ abortSteps sc)) := by
  cases hd : sc.disk
  · simpa [stageThen, locPart, abortSteps_eq, onDisk, hd] using shape_temp sc wl hs
  · refine .noop _ ?_ (fun f h => ?_) (fun h n hn => ?_)
    · simp [touches_stageThen, abortSteps_eq]
    · have e1 : (upd (upd f sc.t (some .file)) sc.s (some (.dir (writeAll (img0 sc wl) ws)))) sc.t = some .file := by
        rw [upd_ne _ _ _ _ h.ts, upd_same]
      simp only [runF_cons, runF_stageThen sc hd, runF_append, runF_hits, abortSteps_eq, onDisk, hd, if_true, runF_nil,
        applyF_mkFile, applyF_writeFile, applyF_rmFile_of_file e1, applyF_closeDb, applyF_rmAll]
      -- the download file and the staged store are removed again, and neither name was there before
      rw [upd_comm _ h.ts.symm, upd_upd_same, upd_upd_same, upd_self _ _ _ h.ft, upd_self _ _ _ h.fs]
    · simp only [runHandles_cons, stageThen, locPart, runHandles_append, abortSteps_eq, onDisk, hd, if_true] at hn
      -- `hn : (n = sc.s ∨ n ∈ h) ∧ n ≠ sc.s`: opened by `mkStore`, filtered out by `closeDb`
      cases wl <;> simp [Step.handles, mem_addH] at hn <;> exact hn.1.resolve_left hn.2

theorem shape_accept (sc : Scn) (wl : Bool) (d : Doc) (h1 h2 h3 : String) (ha : accepted sc = some d) :
    Shape sc wl (Step.mkFile sc.t :: Step.writeFile sc.t ::
      stageThen sc wl (readWrites d) (sigPart h1 sc d.sigOk ++ swapPart h2 h3 sc)) := by
  cases hd : sc.disk
  · simpa [stageThen, locPart, sigPart, swapPart_eq, onDisk, hd] using
      shape_temp sc wl ((if sc.sigChecked then [h1] else []) ++ [h2, h3])
  · have e : ∀ k, stageThen sc wl (readWrites d) (sigPart h1 sc d.sigOk ++ k) =
        stageThen sc wl (readWrites d) (sigPart h1 sc d.sigOk) ++ k := by
      intro k; simp only [stageThen, List.append_assoc]
    rw [e, ← List.cons_append, ← List.cons_append]
    refine .swap _ d h2 h3 ?_ hd ha (fun f => ?_) (fun h => ?_)
    · simp [touches_stageThen, touches_sigPart]
    · simp only [runF_cons, runF_stageThen sc hd, runF_sigPart h1 sc hd]
      rfl
    · simp only [runHandles_cons, stageThen, locPart, runHandles_append, onDisk, hd, if_true, runHandles_sigPart,
        runHandles_writeSteps]
      cases wl <;> rfl

theorem opSteps_shape (wl : Bool) (h1 h2 h3 : String) (sc : Scn) : Shape sc wl (opSteps wl h1 h2 h3 sc) := by
  unfold opSteps
  cases ho : sc.origin with
  | down => exact shape_temp sc wl []
  | broken d j => exact shape_abort sc wl _ []
  | doc d =>
    simp only [verifyPart_eq]
    cases hr : rejects sc d.sigOk
    · exact shape_accept sc wl d h1 h2 h3 (by rw [accepted_doc sc d ho, hr]; rfl)
    · exact shape_abort sc wl _ [h1]

theorem load_shape (sc : Scn) : Shape sc sc.hasLoc (loadSteps pathFacts sc) := loadSteps_eq sc ▸ opSteps_shape ..

theorem refresh_shape (sc : Scn) : Shape sc true (refreshSteps pathFacts sc) := refreshSteps_eq sc ▸ opSteps_shape ..

theorem Shape.full {sc : Scn} {withLoc : Bool} {steps : List Step} (S : Shape sc withLoc steps) (f : FsF) (h : NamesOk sc f) :
    runF steps f = f ∨
    (∃ d, sc.disk = true ∧ accepted sc = some d ∧ runF steps f = upd f sc.id (some (.dir (stagedOf sc d withLoc)))) := by
  cases S with
  | noop _ _ effect _ => exact Or.inl (effect f h)
  | swap A d h2 h3 _ hd ha effect _ =>
    refine Or.inr ⟨d, hd, ha, ?_⟩
    have ga : upd (upd f sc.t (some .file)) sc.s (some (.dir (stagedOf sc d withLoc))) sc.a = none := by
      rw [upd_ne _ _ _ _ h.sa.symm, upd_ne _ _ _ _ h.ta.symm, h.fa]
    have gt : upd (upd (upd f sc.t (some .file)) sc.s none) sc.id (some (.dir (stagedOf sc d withLoc))) sc.t = some .file := by
      rw [upd_ne _ _ _ _ h.tid, upd_ne _ _ _ _ h.ts, upd_same]
    rw [runF_append, effect, swapPart_eq, runF_cons, runF_append, onDisk, if_pos hd, applyF_hit,
      runF_swapSteps sc _ _ h.sid h.aid h.sa (upd_same ..) ga, upd_upd_same, runF_cons, runF_cons, runF_nil, applyF_hit,
      applyF_rmFile_of_file gt]
    -- the staged store now sits at the live name; the download file and the staged name are gone, as before the run
    rw [upd_comm _ h.tid.symm, upd_comm _ h.ts.symm, upd_upd_same, upd_self _ _ _ h.ft, upd_self _ _ _ h.fs]

theorem Shape.touches {sc : Scn} {withLoc : Bool} {steps : List Step} (S : Shape sc withLoc steps) :
    Touches [sc.t, sc.s, sc.a, sc.id] steps := by
  cases S with
  | noop _ names _ _ => exact names.mono (List.subset_append_left _ [sc.a, sc.id])
  | swap A d h2 h3 names _ _ _ _ =>
    exact touches_append.mpr ⟨names.mono (List.subset_append_left _ [sc.a, sc.id]), by simp [swapPart_eq, touches_swapSteps]⟩

/-- A scenario that does not end in acceptance never touches anything but its two temporary names, at any prefix. -/
theorem Shape.prefix_rejected {sc : Scn} {withLoc : Bool} {steps : List Step} (S : Shape sc withLoc steps)
    (ha : accepted sc = none) (f : FsF) (k : Nat) (n : Name) (hn : n ∉ [sc.t, sc.s]) : runF (steps.take k) f n = f n := by
  cases S with
  | noop _ names _ _ => exact names.frame f hn k
  | swap A d h2 h3 _ _ ha' _ _ => rw [ha] at ha'; cases ha'

theorem Shape.prefix_live {sc : Scn} {withLoc : Bool} {steps : List Step} (S : Shape sc withLoc steps) (f : FsF)
    (h : NamesOk sc f) (old : Node) (hid : f sc.id = some old) (k : Nat) :
    runF (steps.take k) f sc.id = some old ∨ runF (steps.take k) f sc.id = none ∨
    (∃ d, accepted sc = some d ∧ runF (steps.take k) f sc.id = some (.dir (stagedOf sc d withLoc))) := by
  have hidn : sc.id ∉ [sc.t, sc.s] := by simp [h.tid.symm, h.sid.symm]
  cases S with
  | noop _ names _ _ => exact Or.inl ((names.frame f hidn k).trans hid)
  | swap A d h2 h3 names hd ha effect _ =>
    suffices AtEveryPrefix (fun g => g sc.id = some old ∨ g sc.id = none ∨ g sc.id = some (.dir (stagedOf sc d withLoc)))
        (A ++ swapPart h2 h3 sc) f from
      (this k).imp_right (Or.imp_right fun e => ⟨d, ha, e⟩)
    have g1 : upd (upd f sc.t (some .file)) sc.s (some (.dir (stagedOf sc d withLoc))) sc.id = some old := by
      rw [upd_ne _ _ _ _ h.sid.symm, upd_ne _ _ _ _ h.tid.symm, hid]
    have sw := swap_prefixes sc _ old _ h.sid h.aid h.sa g1 (upd_same ..)
    have tail : Touches [sc.t] [Step.hit h3, Step.rmFile sc.t] := by simp
    rw [atEveryPrefix_append, effect, swapPart_eq, atEveryPrefix_cons, applyF_hit, onDisk, if_pos hd, atEveryPrefix_append]
    -- before the swap and after it nothing names the live store
    exact ⟨(names.frame f hidn).mono fun g e => Or.inl (e.trans hid), Or.inl g1, sw,
      (tail.frame _ (by simpa using h.tid.symm)).mono fun g e => e ▸ sw.last⟩

theorem Shape.handles {sc : Scn} {withLoc : Bool} {steps : List Step} (S : Shape sc withLoc steps) (h : List Name) (n : Name)
    (hn : n ∈ runHandles steps h) : n ∈ h ∨ n = sc.id := by
  cases S with
  | noop _ _ _ handles => exact Or.inl (handles h n hn)
  | swap A d h2 h3 _ hd _ _ handles =>
    -- `s` is opened by the staging part and closed by the swap, `id` is closed and reopened
    rw [runHandles_append, handles, swapPart_eq, swapSteps_eq] at hn
    simp only [onDisk, hd, if_true, runHandles_cons, List.cons_append, List.nil_append, runHandles_nil, Step.handles,
      mem_addH, List.mem_filter, decide_eq_true_eq] at hn
    rcases hn with e | ⟨⟨e | e, _⟩, e'⟩
    · exact Or.inr e
    · exact absurd e e'
    · exact Or.inl e

end Crv.Paths
