import Crv.Paths
namespace Crv.Paths

theorem hexDigit_isHex (n : Nat) (h : n < 16) : isHexDigit (hexDigit n) = true := by
  have := (by decide : ∀ n : Fin 16, isHexDigit (hexDigit n.val) = true)
  exact this ⟨n, h⟩

def unhexDigit (c : UInt8) : Nat := if c ≤ 57 then c.toNat - 48 else c.toNat - 87

theorem unhexDigit_hexDigit (n : Nat) (h : n < 16) : unhexDigit (hexDigit n) = n :=
  (by decide : ∀ n : Fin 16, unhexDigit (hexDigit n.val) = n.val) ⟨n, h⟩

theorem hexDigit_inj (a b : Nat) (ha : a < 16) (hb : b < 16) (h : hexDigit a = hexDigit b) : a = b := by
  rw [← unhexDigit_hexDigit a ha, h, unhexDigit_hexDigit b hb]

theorem hi_lt (x : UInt8) : x.toNat / 16 < 16 := Nat.div_lt_of_lt_mul x.toNat_lt
theorem lo_lt (x : UInt8) : x.toNat % 16 < 16 := Nat.mod_lt _ (by decide)

theorem hex_length (bs : List UInt8) : (hex bs).length = 2 * bs.length := by
  fun_induction hex bs with
  | case1 => rfl
  | case2 b bs ih => simp only [List.length_cons, ih]; omega

theorem hex_all (bs : List UInt8) : ∀ c ∈ hex bs, isHexDigit c = true := by
  induction bs with
  | nil => intro c hc; cases hc
  | cons b bs ih =>
    intro c hc
    simp only [hex, List.mem_cons] at hc
    rcases hc with rfl | rfl | h
    · exact hexDigit_isHex _ (hi_lt b)
    · exact hexDigit_isHex _ (lo_lt b)
    · exact ih c h

theorem hex_inj (a b : List UInt8) (h : hex a = hex b) : a = b := by
  induction a generalizing b with
  | nil =>
    cases b with
    | nil => rfl
    | cons y ys => cases h
  | cons x xs ih =>
    cases b with
    | nil => cases h
    | cons y ys =>
      simp only [hex, List.cons.injEq] at h
      have e1 := hexDigit_inj _ _ (hi_lt x) (hi_lt y) h.1
      have e2 := hexDigit_inj _ _ (lo_lt x) (lo_lt y) h.2.1
      -- a byte is its two digits
      have : x.toNat = y.toNat := by rw [← Nat.div_add_mod x.toNat 16, e1, e2, Nat.div_add_mod]
      rw [UInt8.toNat_inj.mp this, ih ys h.2.2]

/-- The hex alphabet contains no '/' and no '.'. -/
theorem isHexDigit_ne {c : UInt8} (h : isHexDigit c = true) : c ≠ 47 ∧ c ≠ 46 := by
  constructor <;> (intro e; subst e; revert h; decide)

theorem hex_normal (bs : List UInt8) (h : bs ≠ []) : normalComponent (hex bs) := by
  have hall := hex_all bs
  cases bs with
  | nil => exact absurd rfl h
  | cons b bs =>
    refine ⟨by simp [hex], ?_, ?_, ?_⟩
    · simp [hex]
    · intro e
      have : (46 : UInt8) ∈ hex (b :: bs) := by rw [e]; simp
      exact (isHexDigit_ne (hall _ this)).2 rfl
    · intro hm
      exact (isHexDigit_ne (hall _ hm)).1 rfl

theorem splitOn_ne_nil (sep : UInt8) (n : Name) : splitOn sep n ≠ [] := by
  fun_induction splitOn sep n <;> simp

theorem splitOn_append_sep (sep : UInt8) (a b : Name) :
    splitOn sep (a ++ sep :: b) = splitOn sep a ++ splitOn sep b := by
  induction a with
  | nil => simp [splitOn]
  | cons c cs ih =>
    simp only [List.cons_append, splitOn]
    split
    · simp [ih]
    · rw [ih]
      have hne := splitOn_ne_nil sep cs
      cases hs : splitOn sep cs with
      | nil => exact absurd hs hne
      | cons h t => simp

theorem splitOn_noSep (sep : UInt8) (n : Name) (h : sep ∉ n) : splitOn sep n = [n] := by
  induction n with
  | nil => rfl
  | cons c cs ih =>
    simp only [List.mem_cons, not_or] at h
    simp only [splitOn]
    rw [if_neg (fun e => h.1 e.symm), ih h.2]

theorem pushComp_normal (rooted : Bool) (acc : List Name) (c : Name) (h : normalComponent c) :
    pushComp rooted acc c = acc ++ [c] := by
  obtain ⟨h1, h2, h3, _⟩ := h
  simp [pushComp, h1, h2, h3]

theorem isRooted_append (a b : Name) (h : a ≠ []) : isRooted (a ++ b) = isRooted a := by
  cases a with
  | nil => exact absurd rfl h
  | cons x xs => simp [isRooted]

/-- `filepath.Join(workDir, name)` is the cleaned `workDir` with exactly one more element, `name`. -/
theorem join_child (wd name : Name) (hwd : wd ≠ []) (hn : normalComponent name) :
    join wd name = { rooted := (clean wd).rooted, comps := (clean wd).comps ++ [name] } := by
  have hne : name ≠ [] := hn.1
  simp only [join, if_neg hwd, if_neg hne, clean]
  rw [isRooted_append _ _ hwd, splitOn_append_sep, splitOn_noSep 47 name hn.2.2.2, List.foldl_append]
  simp only [List.foldl_cons, List.foldl_nil, pushComp_normal _ _ _ hn]

/-- Three bytes of prefix are what makes the name none of "", ".", "..". -/
theorem normalComponent_affix (P u S : Name) (hlen : 2 < P.length) (hP : (47 : UInt8) ∉ P) (hu : (47 : UInt8) ∉ u)
    (hS : (47 : UInt8) ∉ S) : normalComponent (P ++ u ++ S) := by
  have hl : 2 < (P ++ u ++ S).length := by
    rw [List.length_append, List.length_append]
    exact Nat.lt_of_lt_of_le hlen (Nat.le_trans (Nat.le_add_right ..) (Nat.le_add_right ..))
  refine ⟨?_, ?_, ?_, by simp [hP, hu, hS]⟩ <;> exact fun e => absurd (e ▸ hl) (by decide)

theorem stripPrefix_append (p r : Name) : stripPrefix p (p ++ r) = some r := by
  induction p with
  | nil => rfl
  | cons x xs ih => simp [stripPrefix, ih]

theorem stripPrefix_some (p n r : Name) (h : stripPrefix p n = some r) : n = p ++ r := by
  fun_induction stripPrefix p n with
  | case1 n => cases h; rfl
  | case2 => cases h
  | case3 p ps cs ih => simp [ih h]
  | case4 => cases h

theorem matchesPattern_iff (P S n : Name) :
    matchesPattern P S n = true ↔ ∃ u, n = P ++ u ++ S ∧ (10 : UInt8) ∉ u := by
  constructor
  · fun_cases matchesPattern P S n
    case case1 => nofun
    case case2 => nofun
    case case3 r hr m hm =>
      intro h
      have e1 := stripPrefix_some _ _ _ hr
      have e2 := stripPrefix_some _ _ _ hm
      refine ⟨m.reverse, ?_, ?_⟩
      · have : r = m.reverse ++ S := by
          have := congrArg List.reverse e2
          simpa using this
        rw [e1, this, List.append_assoc]
      · intro hmem
        have := List.all_eq_true.mp h 10 (List.mem_reverse.mp hmem)
        simp at this
  · rintro ⟨u, rfl, hu⟩
    unfold matchesPattern
    rw [List.append_assoc, stripPrefix_append]
    simp only [List.reverse_append, stripPrefix_append]
    apply List.all_eq_true.mpr
    intro x hx
    have : x ≠ 10 := fun e => hu (e ▸ List.mem_reverse.mp hx)
    simpa using this

/-- A name made of hex digits only never matches, as soon as the literal prefix holds a byte that is no hex digit. -/
theorem matchesPattern_hex_false (P S n : Name) (hP : ∃ c ∈ P, isHexDigit c = false)
    (hn : ∀ c ∈ n, isHexDigit c = true) : matchesPattern P S n = false := by
  cases hm : matchesPattern P S n with
  | false => rfl
  | true =>
    obtain ⟨u, rfl, _⟩ := (matchesPattern_iff P S _).mp hm
    obtain ⟨c, hc, hf⟩ := hP
    have := hn c (by simp [hc])
    rw [hf] at this
    cases this

theorem flatten_blocks_inj {α} (w : Nat) (hw : 0 < w) (xs ys : List (List α))
    (hx : ∀ x ∈ xs, x.length = w) (hy : ∀ y ∈ ys, y.length = w) (h : xs.flatten = ys.flatten) : xs = ys := by
  have ne : ∀ (z : List α) (zs : List (List α)), z.length = w → (z :: zs).flatten ≠ [] := fun z zs hz e => by
    have := congrArg List.length e
    rw [List.flatten_cons, List.length_append, hz] at this
    exact Nat.ne_of_gt hw (Nat.eq_zero_of_add_eq_zero_right this)
  induction xs generalizing ys with
  | nil =>
    cases ys with
    | nil => rfl
    | cons y ys => exact absurd h.symm (ne y ys (hy y (List.mem_cons_self ..)))
  | cons x xs ih =>
    cases ys with
    | nil => exact absurd h (ne x xs (hx x (List.mem_cons_self ..)))
    | cons y ys =>
      simp only [List.flatten_cons] at h
      obtain ⟨e1, e2⟩ := List.append_inj h ((hx x (List.mem_cons_self ..)).trans (hy y (List.mem_cons_self ..)).symm)
      rw [e1, ih ys (fun a ha => hx a (List.mem_cons_of_mem _ ha)) (fun a ha => hy a (List.mem_cons_of_mem _ ha)) e2]

theorem mapOpt_some_map {α β} (f : α → Option β) (l : List α) (r : List β) (h : mapOpt f l = some r) :
    l.map f = r.map some := by
  fun_induction mapOpt f l generalizing r with
  | case1 => cases h; rfl
  | case2 a as b bs hbs hb ih => cases h; simp [hb, ih bs hbs]
  | case3 => cases h

theorem mapOpt_mem {α β} (f : α → Option β) (l : List α) (r : List β) (h : mapOpt f l = some r) :
    ∀ b ∈ r, ∃ a ∈ l, f a = some b :=
  fun _ hb => List.mem_map.mp (mapOpt_some_map f l r h ▸ List.mem_map_of_mem (f := some) hb)

theorem mapOpt_map {α β γ} (f : α → Option β) (g : β → γ) (l : List α) :
    mapOpt (fun a => (f a).map g) l = (mapOpt f l).map (List.map g) := by
  induction l with
  | nil => rfl
  | cons a as ih =>
    simp only [mapOpt, ih]
    cases f a <;> cases mapOpt f as <;> rfl

section ids
variable (sha : List UInt8 → List UInt8) (norm : Name → Option Name)

theorem storeName_inj (hcf : ∀ a b, sha a = sha b → a = b) {a b : List UInt8} (h : storeName sha a = storeName sha b) :
    a = b := hcf _ _ (hex_inj _ _ h)

theorem urlId_eq_some {u i : Name} : urlId sha norm u = some i ↔ ∃ p, norm u = some p ∧ i = storeName sha p := by
  unfold urlId
  cases norm u <;> simp [eq_comm]

theorem cdpId_eq_some {F : Facts} {cdps : List Name} {i : Name} (h : cdpId sha norm F cdps = some i) :
    ∃ ns, mapOpt norm (cdpKept F cdps) = some ns ∧ i = storeName sha ((ns.map (storeName sha)).flatten) := by
  unfold cdpId at h
  split at h
  · cases h
  · rw [show urlId sha norm = fun u => (norm u).map (storeName sha) from rfl, mapOpt_map] at h
    cases hn : mapOpt norm (cdpKept F cdps) with
    | none => simp [hn] at h
    | some ns => exact ⟨ns, rfl, by simpa [hn, eq_comm] using h⟩

end ids

end Crv.Paths
