import Crv.Proofs.OcspParse
/-! `lookup` (= `OCSPRevocationChecker.IsRevoked`) for the canonical shape (C02, and the lookup-level part of C05).

The loop bodies of the canonical shape never `break`, so the nested server × candidate loop is a single scan over the
ordered pair list (`outer_eq_inner_pairs`), and a scan stops at the first element whose body does not `continue`
(`inner_first`, `inner_all_cont`). A lookup then goes one of three ways — cache hit, miss with a first answering pair, miss
with no answering pair (`lookup_cases`) — and in each the whole `LookupOut` is known (`lookup_hit`, `lookup_answered`,
`lookup_unanswered`). The decision theorems are read off these three equations. Props/C02 and C05 have theorems of the same
short names for `ocspFacts` (`first_answer_decides`, `influence_only_authentic` there without the conjunct `hit = false`); in
those namespaces the ones here are written `Ocsp.…`. -/
namespace Crv.Ocsp

/-- Servers × candidates in the order the nested loop visits them. -/
def pairs {α β : Type} (as : List α) (bs : List β) : List (α × β) :=
  as.flatMap (fun a => bs.map (fun b => (a, b)))

theorem inner_cons {β : Type} (f : β → PairOut) (x : β) (xs : List β) :
    inner f (x :: xs) = if f x = .cont then (x :: (inner f xs).1, (inner f xs).2) else ([x], f x) := by
  rw [inner]
  cases f x <;> rfl

theorem inner_all_cont {β : Type} (f : β → PairOut) (l : List β) (h : ∀ y ∈ l, f y = .cont) :
    inner f l = (l, .cont) := by
  induction l with
  | nil => rfl
  | cons x xs ih =>
    rw [inner_cons, if_pos (h x List.mem_cons_self), ih fun y hy => h y (List.mem_cons_of_mem _ hy)]

theorem inner_append {β : Type} (f : β → PairOut) (l₁ l₂ : List β) :
    inner f (l₁ ++ l₂) =
      if (inner f l₁).2 = .cont then ((inner f l₁).1 ++ (inner f l₂).1, (inner f l₂).2) else inner f l₁ := by
  induction l₁ with
  | nil => rfl
  | cons x xs ih =>
    rw [List.cons_append, inner_cons, inner_cons, ih]
    by_cases hx : f x = .cont
    · rw [if_pos hx, if_pos hx]
      by_cases hxs : (inner f xs).2 = .cont
      · rw [if_pos hxs, if_pos hxs]; rfl
      · rw [if_neg hxs, if_neg hxs]
    · rw [if_neg hx, if_neg hx, if_neg hx]

theorem inner_first {β : Type} (f : β → PairOut) (pre : List β) (x : β) (post : List β)
    (hpre : ∀ y ∈ pre, f y = .cont) (hx : f x ≠ .cont) :
    inner f (pre ++ x :: post) = (pre ++ [x], f x) := by
  rw [inner_append, inner_all_cont f pre hpre, if_pos rfl, inner_cons, if_neg hx]

theorem inner_map {α β : Type} (g : α → β) (f : β → PairOut) (l : List α) :
    inner f (l.map g) = (((inner (fun a => f (g a)) l).1).map g, (inner (fun a => f (g a)) l).2) := by
  fun_induction inner (fun a => f (g a)) l with
  | case1 => rfl
  | case2 x xs hx r ih => simp [inner, hx, ih, r]
  | case3 x xs hx => simp [inner]

theorem inner_ne_brk {β : Type} {f : β → PairOut} (h : ∀ x, f x ≠ .brk) (l : List β) : (inner f l).2 ≠ .brk := by
  fun_induction inner f l with
  | case1 => nofun
  | case2 x xs hx r ih => exact ih
  | case3 x xs hx => exact h x

/-- A loop body that never breaks: the nested loop is one scan over the ordered pair list. -/
theorem outer_eq_inner_pairs {α β : Type} (tp : α → β → PairOut) (hb : ∀ a b, tp a b ≠ .brk)
    (bs : List β) (as : List α) :
    outer tp bs as = inner (fun p => tp p.1 p.2) (pairs as bs) := by
  induction as with
  | nil => rfl
  | cons a as ih =>
    have hrow := inner_map (fun b => (a, b)) (fun p : α × β => tp p.1 p.2) bs
    rw [pairs, List.flatMap_cons, inner_append, hrow, ← pairs, ← ih, outer]
    cases h2 : (inner (tp a) bs).2 with
    | cont => rw [if_pos rfl]
    | brk => exact absurd h2 (inner_ne_brk (hb a) bs)
    | fail => rw [if_neg (fun h => PairOut.noConfusion h)]
    | answer p => rw [if_neg (fun h => PairOut.noConfusion h)]

theorem mem_pairs {α β : Type} {as : List α} {bs : List β} {p : α × β} :
    p ∈ pairs as bs ↔ p.1 ∈ as ∧ p.2 ∈ bs := by
  simp only [pairs, List.mem_flatMap, List.mem_map]
  constructor
  · rintro ⟨a, ha, b, hb, rfl⟩; exact ⟨ha, hb⟩
  · rintro ⟨ha, hb⟩; exact ⟨p.1, ha, p.2, hb, rfl⟩

theorem first_or_none {α : Type} (P : α → Prop) (l : List α) :
    (∀ x ∈ l, ¬ P x) ∨ ∃ pre x post, l = pre ++ x :: post ∧ (∀ y ∈ pre, ¬ P y) ∧ P x := by
  induction l with
  | nil => exact .inl (fun _ h => absurd h List.not_mem_nil)
  | cons a l ih =>
    by_cases ha : P a
    · exact .inr ⟨[], a, l, rfl, fun _ h => absurd h List.not_mem_nil, ha⟩
    · rcases ih with h | ⟨pre, x, post, rfl, hpre, hx⟩
      · exact .inl (List.forall_mem_cons.mpr ⟨ha, h⟩)
      · exact .inr ⟨a :: pre, x, post, rfl, List.forall_mem_cons.mpr ⟨ha, hpre⟩, hx⟩

variable (V : Key → Signed → Bool)

@[simp] theorem canon_cacheFirst (k : Nat) : (canon k).cacheFirst = true := rfl
@[simp] theorem canon_validUntilChecked (k : Nat) : (canon k).validUntilChecked = true := rfl
@[simp] theorem canon_loopOrder (k : Nat) : (canon k).loopOrder = .serversOuter := rfl
@[simp] theorem canon_onFetchErr (k : Nat) : (canon k).onFetchErr = .cont := rfl
@[simp] theorem canon_onParseErr (k : Nat) : (canon k).onParseErr = .cont := rfl
@[simp] theorem canon_revokedIff (k : Nat) : (canon k).revokedIffStatusRevoked = true := rfl
@[simp] theorem canon_evictionUses (k : Nat) : (canon k).evictionUsesNextUpdate = true := rfl
@[simp] theorem canon_addGuard (k : Nat) : (canon k).addGuard = .evictionPositive := rfl
@[simp] theorem canon_validUntilIs (k : Nat) : (canon k).validUntilIsNowPlusEviction = true := rfl
@[simp] theorem canon_tailLenOf (k : Nat) : (canon k).tailLenOf = .filtered := rfl
@[simp] theorem canon_tailNeedsStrict (k : Nat) : (canon k).tailNeedsStrict = true := rfl
@[simp] theorem canon_maxClockSkew (k : Nat) : (canon k).maxClockSkew = k := rfl
@[simp] theorem canon_keyParts (k : Nat) : (canon k).keyParts = [.issuer, .lit ['_'], .serial] := rfl

/-- The fetch from `s` with candidate `c` succeeded and `parseOcspResponse` accepted the body, as `p`.
`V` is the section variable and so comes first here and in `NoAnswer`, `scan`; the model functions take the facts first. -/
def Answers (F : Facts) (cert : Cert) (cands : List Cand) (answer : Str → Cand → Fetch) (s : Str) (c : Cand)
    (p : Parsed) : Prop :=
  ∃ b, answer s c = .body b ∧ parseOcsp F V cert cands b = some p

/-- Fetch failed, or what came back is not accepted. -/
def NoAnswer (F : Facts) (cert : Cert) (cands : List Cand) (answer : Str → Cand → Fetch) (s : Str) (c : Cand) : Prop :=
  answer s c = .error ∨ ∃ b, answer s c = .body b ∧ parseOcsp F V cert cands b = none

theorem tryPair_canon (k : Nat) (cert : Cert) (cands : List Cand) (answer : Str → Cand → Fetch) (s : Str) (c : Cand) :
    tryPair (canon k) V cert cands answer s c =
      match answer s c with
      | .error => .cont
      | .body b =>
        match parseOcsp (canon k) V cert cands b with
        | none => .cont
        | some p => .answer p := rfl

section
variable {k : Nat} {cert : Cert} {cands : List Cand} {answer : Str → Cand → Fetch} {s : Str} {c : Cand}

theorem noAnswer_of_not_answers {F : Facts} (h : ¬ ∃ p, Answers V F cert cands answer s c p) :
    NoAnswer V F cert cands answer s c := by
  cases ha : answer s c with
  | error => exact .inl ha
  | body b =>
    refine .inr ⟨b, ha, ?_⟩
    cases hp : parseOcsp F V cert cands b with
    | none => rfl
    | some p => exact absurd ⟨p, b, ha, hp⟩ h

theorem tryPair_of_noAnswer (h : NoAnswer V (canon k) cert cands answer s c) :
    tryPair (canon k) V cert cands answer s c = .cont := by
  rw [tryPair_canon]
  rcases h with h | ⟨b, hb, hp⟩
  · rw [h]
  · rw [hb]; simp only [hp]

theorem tryPair_of_answers {p : Parsed} (h : Answers V (canon k) cert cands answer s c p) :
    tryPair (canon k) V cert cands answer s c = .answer p := by
  obtain ⟨b, hb, hp⟩ := h
  rw [tryPair_canon, hb]; simp only [hp]

end

theorem tryPair_ne_brk (k : Nat) (cert : Cert) (cands : List Cand) (answer : Str → Cand → Fetch) (s : Str) (c : Cand) :
    tryPair (canon k) V cert cands answer s c ≠ .brk := by
  rw [tryPair_canon]
  cases answer s c with
  | error => simp
  | body b => cases hp : parseOcsp (canon k) V cert cands b <;> simp [hp]

/-- The pairs the checker may contact, in order. -/
def httpPairs (F : Facts) (cert : Cert) (cands : List Cand) : List (Str × Cand) :=
  pairs (filterHttp F cert.servers) cands

def scan (k : Nat) (cert : Cert) (cands : List Cand) (answer : Str → Cand → Fetch) : List (Str × Cand) × PairOut :=
  inner (fun p => tryPair (canon k) V cert cands answer p.1 p.2) (httpPairs (canon k) cert cands)

theorem loops_canon (k : Nat) (cert : Cert) (cands : List Cand) (answer : Str → Cand → Fetch) :
    loops (canon k) (tryPair (canon k) V cert cands answer) (filterHttp (canon k) cert.servers) cands =
      scan V k cert cands answer := by
  unfold loops scan httpPairs
  simp only [canon_loopOrder]
  exact outer_eq_inner_pairs _ (tryPair_ne_brk V k cert cands answer) _ _

/-- The verdict the checker derives from an accepted response: only status `revoked` is revoked, `unknown` passes as good
(`Revoked := ocspResponse.Status == ocsp.Revoked`). -/
def verdictOf (p : Parsed) : Result := if p.status = .revoked then .revoked else .good

section
variable {k : Nat} {inst : Inst} {cert : Cert} {cands : List Cand} {answer : Str → Cand → Fetch} {now : Nat}
  {T T' : Table}

theorem lookup_hit {rv : Bool}
    (h : tryGet (canon k) T (mkKey (canon k) cert) now = (some rv, T')) :
    lookup (canon k) V inst cert cands answer now T =
      { result := if rv then .revoked else .good, requests := [], hit := true, answered := none, stored := none,
        table := T' } := by
  simp only [lookup, canon_cacheFirst, ↓reduceIte, h]

/-- The right-hand side binds the lifetime with `let`: `dsimp only` before a `split` or `cases` on it. -/
theorem lookup_answered {pre post : List (Str × Cand)} {q : Str × Cand} {p : Parsed}
    (hmiss : tryGet (canon k) T (mkKey (canon k) cert) now = (none, T'))
    (hl : httpPairs (canon k) cert cands = pre ++ q :: post)
    (hpre : ∀ q' ∈ pre, NoAnswer V (canon k) cert cands answer q'.1 q'.2)
    (hq : Answers V (canon k) cert cands answer q.1 q.2 p) :
    lookup (canon k) V inst cert cands answer now T =
      let L := lifetime (canon k) inst.defaultDur now p.nextUpdate
      { result := verdictOf p, requests := pre ++ [q], hit := false, answered := some p,
        stored := if 0 < L then some L else none,
        table := if 0 < L then
            Cache.add T' (mkKey (canon k) cert) L { revoked := decide (p.status = .revoked), validUntil := now + L } now
          else T' } := by
  have hq' := tryPair_of_answers V hq
  have hs : scan V k cert cands answer = (pre ++ [q], .answer p) := by
    rw [scan, hl, inner_first _ pre q post (fun y hy => tryPair_of_noAnswer V (hpre y hy)) (by simp [hq']), hq']
  have hb : (p.status == CertStatus.revoked) = decide (p.status = .revoked) := by cases p.status <;> rfl
  simp only [lookup, canon_cacheFirst, ↓reduceIte, hmiss, loops_canon, hs, canon_revokedIff,
    canon_addGuard, canon_validUntilIs, hb, verdictOf, decide_eq_true_eq, gt_iff_lt]

/-- No pair answers: every pair is tried once, in order, nothing is cached, the tail decides. -/
theorem lookup_unanswered
    (hmiss : tryGet (canon k) T (mkKey (canon k) cert) now = (none, T'))
    (hall : ∀ q ∈ httpPairs (canon k) cert cands, NoAnswer V (canon k) cert cands answer q.1 q.2) :
    lookup (canon k) V inst cert cands answer now T =
      { result := if inst.strict = true ∧ filterHttp (canon k) cert.servers ≠ [] then .error else .good,
        requests := httpPairs (canon k) cert cands, hit := false, answered := none, stored := none, table := T' } := by
  have hs : scan V k cert cands answer = (httpPairs (canon k) cert cands, .cont) :=
    inner_all_cont _ _ (fun y hy => tryPair_of_noAnswer V (hall y hy))
  have ht : (!(filterHttp (canon k) cert.servers).isEmpty && inst.strict) =
      decide (inst.strict = true ∧ filterHttp (canon k) cert.servers ≠ []) := by
    cases inst.strict <;> cases filterHttp (canon k) cert.servers <;> rfl
  simp only [lookup, canon_cacheFirst, ↓reduceIte, hmiss, loops_canon, hs, canon_tailLenOf, canon_tailNeedsStrict, ht,
    decide_eq_true_eq]

theorem first_answer_decides {pre post : List (Str × Cand)} {q : Str × Cand} {p : Parsed}
    (hmiss : tryGet (canon k) T (mkKey (canon k) cert) now = (none, T'))
    (hl : httpPairs (canon k) cert cands = pre ++ q :: post)
    (hpre : ∀ q' ∈ pre, NoAnswer V (canon k) cert cands answer q'.1 q'.2)
    (hq : Answers V (canon k) cert cands answer q.1 q.2 p) :
    (lookup (canon k) V inst cert cands answer now T).result = verdictOf p ∧
    (lookup (canon k) V inst cert cands answer now T).requests = pre ++ [q] ∧
    (lookup (canon k) V inst cert cands answer now T).answered = some p ∧
    (lookup (canon k) V inst cert cands answer now T).hit = false := by
  rw [lookup_answered V hmiss hl hpre hq]
  exact ⟨rfl, rfl, rfl, rfl⟩

theorem cache_hit_decides {rv : Bool}
    (hhit : tryGet (canon k) T (mkKey (canon k) cert) now = (some rv, T')) :
    (lookup (canon k) V inst cert cands answer now T).result = (if rv then .revoked else .good) ∧
    (lookup (canon k) V inst cert cands answer now T).requests = [] ∧
    (lookup (canon k) V inst cert cands answer now T).hit = true := by
  rw [lookup_hit V hhit]
  exact ⟨rfl, rfl, rfl⟩

end

theorem lookup_cases (k : Nat) (cert : Cert) (cands : List Cand) (answer : Str → Cand → Fetch) (now : Nat) (T : Table) :
    (∃ rv T', tryGet (canon k) T (mkKey (canon k) cert) now = (some rv, T')) ∨
    ∃ T', tryGet (canon k) T (mkKey (canon k) cert) now = (none, T') ∧
      ((∃ pre q post p, httpPairs (canon k) cert cands = pre ++ q :: post ∧
          (∀ q' ∈ pre, NoAnswer V (canon k) cert cands answer q'.1 q'.2) ∧
          Answers V (canon k) cert cands answer q.1 q.2 p) ∨
       ∀ q ∈ httpPairs (canon k) cert cands, NoAnswer V (canon k) cert cands answer q.1 q.2) := by
  rcases h : tryGet (canon k) T (mkKey (canon k) cert) now with ⟨_ | rv, T'⟩
  · refine .inr ⟨T', rfl, ?_⟩
    rcases first_or_none (fun q : Str × Cand => ∃ p, Answers V (canon k) cert cands answer q.1 q.2 p)
      (httpPairs (canon k) cert cands) with h | ⟨pre, q, post, hl, hpre, p, hq⟩
    · exact .inr fun q hq => noAnswer_of_not_answers V (h q hq)
    · exact .inl ⟨pre, q, post, p, hl, fun q' hq' => noAnswer_of_not_answers V (hpre q' hq'), hq⟩
  · exact .inl ⟨rv, T', rfl⟩

theorem strict_accept_needs_answer (k : Nat) (inst : Inst) (cert : Cert) (cands : List Cand)
    (answer : Str → Cand → Fetch) (now : Nat) (T : Table)
    (hstrict : inst.strict = true) (hne : filterHttp (canon k) cert.servers ≠ [])
    (hok : (lookup (canon k) V inst cert cands answer now T).result ≠ .error) :
    (lookup (canon k) V inst cert cands answer now T).hit = true ∨
    ∃ q ∈ httpPairs (canon k) cert cands, ∃ p, Answers V (canon k) cert cands answer q.1 q.2 p ∧
      (lookup (canon k) V inst cert cands answer now T).answered = some p := by
  rcases lookup_cases V k cert cands answer now T with ⟨rv, T', h⟩ | ⟨T', h, ⟨pre, q, post, p, hl, hpre, hq⟩ | hall⟩
  · left; rw [lookup_hit V h]
  · right; exact ⟨q, hl ▸ List.mem_append_right pre List.mem_cons_self, p, hq, by rw [lookup_answered V h hl hpre hq]⟩
  · rw [lookup_unanswered V h hall, if_pos ⟨hstrict, hne⟩] at hok
    exact absurd rfl hok

theorem error_needs_strict_http {k : Nat} {inst : Inst} {cert : Cert} {cands : List Cand}
    {answer : Str → Cand → Fetch} {now : Nat} {T : Table}
    (herr : (lookup (canon k) V inst cert cands answer now T).result = .error) :
    inst.strict = true ∧ filterHttp (canon k) cert.servers ≠ [] := by
  rcases lookup_cases V k cert cands answer now T with ⟨rv, T', h⟩ | ⟨T', h, ⟨pre, q, post, p, hl, hpre, hq⟩ | hall⟩
  · rw [lookup_hit V h] at herr; cases rv <;> cases herr
  · rw [lookup_answered V h hl hpre hq] at herr; simp only [verdictOf] at herr; split at herr <;> cases herr
  · rw [lookup_unanswered V h hall] at herr
    split at herr
    · assumption
    · cases herr

/-- C02 (c): without strict mode nothing the responders do leads to an error. -/
theorem nonstrict_never_error (k : Nat) (inst : Inst) (cert : Cert) (cands : List Cand)
    (answer : Str → Cand → Fetch) (now : Nat) (T : Table) (hstrict : inst.strict = false) :
    (lookup (canon k) V inst cert cands answer now T).result ≠ .error :=
  fun h => Bool.false_ne_true (hstrict ▸ (error_needs_strict_http V h).1)

theorem no_http_responder_never_error (k : Nat) (inst : Inst) (cert : Cert) (cands : List Cand)
    (answer : Str → Cand → Fetch) (now : Nat) (T : Table) (hnone : filterHttp (canon k) cert.servers = []) :
    (lookup (canon k) V inst cert cands answer now T).result ≠ .error :=
  fun h => (error_needs_strict_http V h).2 hnone

theorem requests_prefix (k : Nat) (inst : Inst) (cert : Cert) (cands : List Cand)
    (answer : Str → Cand → Fetch) (now : Nat) (T : Table) :
    (lookup (canon k) V inst cert cands answer now T).requests <+: httpPairs (canon k) cert cands := by
  rcases lookup_cases V k cert cands answer now T with ⟨rv, T', h⟩ | ⟨T', h, ⟨pre, q, post, p, hl, hpre, hq⟩ | hall⟩
  · rw [lookup_hit V h]; exact List.nil_prefix
  · rw [lookup_answered V h hl hpre hq, hl]; exact ⟨post, by simp⟩
  · rw [lookup_unanswered V h hall]; exact List.prefix_refl _

/-- Only HTTP(S) responders named by the certificate are ever contacted, and only with issuer candidates. -/
theorem requests_only_http (k : Nat) (inst : Inst) (cert : Cert) (cands : List Cand)
    (answer : Str → Cand → Fetch) (now : Nat) (T : Table) :
    ∀ q ∈ (lookup (canon k) V inst cert cands answer now T).requests,
      q.1 ∈ cert.servers ∧ isHttp (canon k) q.1 = true ∧ q.2 ∈ cands := by
  intro q hq
  have hmem : q ∈ httpPairs (canon k) cert cands :=
    (requests_prefix V k inst cert cands answer now T).subset hq
  unfold httpPairs at hmem
  rw [mem_pairs] at hmem
  obtain ⟨h1, h2⟩ := hmem
  unfold filterHttp at h1
  rw [List.mem_filter] at h1
  exact ⟨h1.1, h1.2, h2⟩

/-- C05 at the level of the whole lookup: the verdict comes from the cache, from the tail (no answer), or from a
requested pair whose body is an authentic response; only in the last case anything is written to the cache. -/
theorem influence_only_authentic (k : Nat) (inst : Inst) (cert : Cert) (cands : List Cand)
    (answer : Str → Cand → Fetch) (now : Nat) (T : Table) :
    let o := lookup (canon k) V inst cert cands answer now T
    (o.answered = none ∧ o.stored = none) ∨
    (∃ q ∈ o.requests, ∃ r s p, answer q.1 q.2 = .body (.resp r) ∧ Authentic V cert cands r ∧
       firstFor r cert.serial = some s ∧ p.status = s.status ∧ p.nextUpdate = s.nextUpdate ∧
       o.answered = some p ∧ o.result = verdictOf p ∧ o.hit = false) := by
  rcases lookup_cases V k cert cands answer now T with ⟨rv, T', h⟩ | ⟨T', h, ⟨pre, q, post, p, hl, hpre, hq⟩ | hall⟩
  · rw [lookup_hit V h]; exact .inl ⟨rfl, rfl⟩
  · rw [lookup_answered V h hl hpre hq]
    obtain ⟨b, hb, hp⟩ := hq
    obtain ⟨r, s, rfl, hs, haut, _, rfl⟩ := (parseOcsp_eq_some V).mp hp
    exact .inr ⟨q, List.mem_append_right _ (List.mem_singleton_self q), r, s, _, hb, haut, hs, rfl, rfl, rfl, rfl, rfl⟩
  · rw [lookup_unanswered V h hall]; exact .inl ⟨rfl, rfl⟩

theorem unauthentic_no_answer {k : Nat} {cert : Cert} {cands : List Cand} {answer : Str → Cand → Fetch} {s : Str} {c : Cand}
    (h : ∀ r, answer s c = .body (.resp r) → ¬ Authentic V cert cands r) :
    NoAnswer V (canon k) cert cands answer s c := by
  refine noAnswer_of_not_answers V ?_
  rintro ⟨p, b, hb, hp⟩
  obtain ⟨r, _, rfl, _, haut, _⟩ := (parseOcsp_eq_some V).mp hp
  exact h r hb haut

theorem lookup_forged (k : Nat) (inst : Inst) (cert : Cert) (cands : List Cand)
    (answer : Str → Cand → Fetch) (now : Nat) (T : Table)
    (h : ∀ s c r, answer s c = .body (.resp r) → ¬ Authentic V cert cands r) :
    lookup (canon k) V inst cert cands answer now T = lookup (canon k) V inst cert cands (fun _ _ => .error) now T := by
  rcases hg : tryGet (canon k) T (mkKey (canon k) cert) now with ⟨_ | rv, T'⟩
  · rw [lookup_unanswered V hg (fun q _ => unauthentic_no_answer V (h q.1 q.2)),
      lookup_unanswered V hg (fun q _ => Or.inl rfl)]
  · rw [lookup_hit V hg, lookup_hit V hg]

end Crv.Ocsp
