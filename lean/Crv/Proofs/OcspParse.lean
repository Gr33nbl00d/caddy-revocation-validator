import Crv.Ocsp
/-! Authenticity of accepted OCSP responses (C05): `parseOcsp` (canonical shape) accepts a body exactly when it is a
well-formed, successful response that carries a status for the certificate's serial and is signed by an issuer
candidate or by a responder that candidate authorised (`parseOcsp_eq_some`). At the end, where issuer candidates come from
(`mem_trimChain_canon`, `mem_candidates`, for `candidates_sound`). -/
namespace Crv.Ocsp

variable (V : Key → Signed → Bool)

/-- The response contains a status for serial `n`. -/
def HasSerial (r : Resp) (n : Nat) : Prop := ∃ s ∈ r.singles, s.serial = n

/-- The response is signed by candidate `c` directly, or by an embedded responder certificate that `c` signed and that
is `c` itself or carries the OCSPSigning extended key usage. -/
def SignedFor (c : Cand) (r : Resp) : Prop :=
  (r.embedded = none ∧ V c.key r.signed = true) ∨
  (∃ e, r.embedded = some e ∧ V c.key e.certSigned = true ∧ (e.certId = c.certId ∨ e.ocspEku = true) ∧
        V e.key r.signed = true)

/-- C05's notion of an authentic answer for `cert` under the issuer candidates `cands`. -/
def Authentic (cert : Cert) (cands : List Cand) (r : Resp) : Prop :=
  r.respStatus = 0 ∧ HasSerial r cert.serial ∧ ∃ c ∈ cands, SignedFor V c r

/-- The first single response for the serial (the one the library reports). -/
def firstFor (r : Resp) (n : Nat) : Option Single := r.singles.find? (fun s => s.serial == n)

/-- Syntactic well-formedness the library additionally insists on (none of it is about who signed or for whom). -/
def WellFormed (r : Resp) (n : Nat) : Prop :=
  r.typeBasic = true ∧ r.basicParses = true ∧ r.responderIdOk = true ∧
  (∀ e, r.embedded = some e → e.parses = true) ∧
  (∀ s, firstFor r n = some s → s.criticalExt = false ∧ s.hashKnown = true)

theorem authorized_canon (k : Nat) (e : Embedded) (c : Cand) :
    authorized (canon k) e c = true ↔ (e.certId = c.certId ∨ e.ocspEku = true) := by
  simp [authorized, canon]

theorem parseForCert_eq_some {b : Body} {n : Nat} {c : Cand} {p : Parsed} :
    parseForCert V b (some n) (some c) = some p ↔
      ∃ r s, b = .resp r ∧ firstFor r n = some s ∧
        (r.respStatus = 0 ∧ r.typeBasic = true ∧ r.basicParses = true) ∧
        (r.responderIdOk = true ∧ sigChecks V r (some c) = true ∧ s.criticalExt = false ∧ s.hashKnown = true) ∧
        { status := s.status, nextUpdate := s.nextUpdate, embedded := r.embedded } = p := by
  cases b with
  | garbage => exact ⟨fun h => (by cases h), fun h => by obtain ⟨_, _, h, _⟩ := h; cases h⟩
  | resp r =>
    simp only [parseForCert, selectSingle, Option.ite_none_right_eq_some]
    constructor
    · rintro ⟨h0, h⟩
      cases hs : r.singles.find? (fun s => s.serial == n) with
      | none => rw [hs] at h; cases h
      | some s =>
        rw [hs, Option.ite_none_right_eq_some] at h
        exact ⟨r, s, rfl, hs, h0, h.1, Option.some.inj h.2⟩
    · rintro ⟨r', s, hb, hs, h0, h1, rfl⟩
      cases hb
      rw [show r.singles.find? (fun s => s.serial == n) = some s from hs]
      exact ⟨h0, (Option.ite_none_right_eq_some).mpr ⟨h1, rfl⟩⟩

theorem firstFor_mem {r : Resp} {n : Nat} {s : Single} (h : firstFor r n = some s) :
    s ∈ r.singles ∧ s.serial = n :=
  ⟨List.mem_of_find?_eq_some h, by simpa using List.find?_some h⟩

theorem hasSerial_firstFor {r : Resp} {n : Nat} (h : HasSerial r n) : ∃ s, firstFor r n = some s := by
  obtain ⟨s, hs, hn⟩ := h
  cases hf : firstFor r n with
  | some s' => exact ⟨s', rfl⟩
  | none => simpa [hn] using List.find?_eq_none.mp hf s hs

/-- The one point of `parseOcspResponse` that is about who signed. -/
theorem signedFor_iff {k : Nat} {c : Cand} {r : Resp} :
    (sigChecks V r (some c) = true ∧ ∀ e, r.embedded = some e → authorized (canon k) e c = true) ↔
      (SignedFor V c r ∧ ∀ e, r.embedded = some e → e.parses = true) := by
  unfold SignedFor sigChecks
  cases r.embedded with
  | none => simp
  | some e =>
    simp only [authorized_canon, reduceCtorEq, false_and, Option.some.injEq, exists_eq_left', false_or, forall_eq',
      Bool.and_eq_true]
    constructor
    · rintro ⟨⟨⟨hp, hs⟩, hc⟩, ha⟩; exact ⟨⟨hc, ha, hs⟩, hp⟩
    · rintro ⟨⟨hc, ha, hs⟩, hp⟩; exact ⟨⟨⟨hp, hs⟩, hc⟩, ha⟩

/-- One candidate iteration of `parseOcspResponse` (canonical shape): literally the body of `attempt`'s loop at the canonical
attempt ⟨true, true, true, true⟩ (hence `true &&`), so that `attempt` there is `cands.findSome? (candStep V k cert b)` by
`rfl` (`h` in `parseOcsp_canon`); `candStep_eq` is the readable form. -/
def candStep (k : Nat) (cert : Cert) (b : Body) (c : Cand) : Option Parsed :=
  match parseForCert V b (some cert.serial) (some c) with
  | none => none
  | some p =>
    match p.embedded with
    | some e => if true && !authorized (canon k) e c then none else some p
    | none => some p

theorem parseOcsp_canon (k : Nat) (cert : Cert) (cands : List Cand) (b : Body) :
    parseOcsp (canon k) V cert cands b = cands.findSome? (candStep V k cert b) := by
  have h : attempt (canon k) V ⟨true, true, true, true⟩ cert cands b = cands.findSome? (candStep V k cert b) := rfl
  show List.findSome? (fun a => attempt (canon k) V a cert cands b) [⟨true, true, true, true⟩] = _
  rw [List.findSome?_cons, h]
  cases cands.findSome? (candStep V k cert b) <;> rfl

theorem candStep_eq (k : Nat) (cert : Cert) (b : Body) (c : Cand) :
    candStep V k cert b c = (parseForCert V b (some cert.serial) (some c)).filter
      (fun p => p.embedded.all (fun e => authorized (canon k) e c)) := by
  unfold candStep
  cases parseForCert V b (some cert.serial) (some c) with
  | none => rfl
  | some p =>
    cases h : p.embedded with
    | none => simp [Option.filter, h]
    | some e => cases ha : authorized (canon k) e c <;> simp [Option.filter, h, ha]

theorem candStep_eq_some {k : Nat} {cert : Cert} {b : Body} {c : Cand} {p : Parsed} :
    candStep V k cert b c = some p ↔
      ∃ r s, b = .resp r ∧ firstFor r cert.serial = some s ∧ r.respStatus = 0 ∧ SignedFor V c r ∧
        WellFormed r cert.serial ∧ { status := s.status, nextUpdate := s.nextUpdate, embedded := r.embedded } = p := by
  rw [candStep_eq, Option.filter_eq_some_iff, Option.all_eq_true, parseForCert_eq_some]
  constructor
  · rintro ⟨⟨r, s, rfl, hs, h0, ⟨h3, h4, h5⟩, rfl⟩, ha⟩
    obtain ⟨hsig, hpar⟩ := (signedFor_iff V).mp ⟨h4, ha⟩
    exact ⟨r, s, rfl, hs, h0.1, hsig, ⟨h0.2.1, h0.2.2, h3, hpar, fun s' hs' => by cases hs.symm.trans hs'; exact h5⟩, rfl⟩
  · rintro ⟨r, s, rfl, hs, h0, hsig, ⟨h1, h2, h3, hpar, hcrit⟩, rfl⟩
    obtain ⟨h4, ha⟩ := (signedFor_iff V (k := k)).mpr ⟨hsig, hpar⟩
    exact ⟨⟨r, s, rfl, hs, ⟨h0, h1, h2⟩, ⟨h3, h4, hcrit s hs⟩, rfl⟩, ha⟩

theorem parseOcsp_eq_some {k : Nat} {cert : Cert} {cands : List Cand} {b : Body} {p : Parsed} :
    parseOcsp (canon k) V cert cands b = some p ↔
      ∃ r s, b = .resp r ∧ firstFor r cert.serial = some s ∧ Authentic V cert cands r ∧ WellFormed r cert.serial ∧
        { status := s.status, nextUpdate := s.nextUpdate, embedded := r.embedded } = p := by
  rw [parseOcsp_canon]
  constructor
  · intro h
    obtain ⟨c, hc, hstep⟩ := List.exists_of_findSome?_eq_some h
    obtain ⟨r, s, rfl, hs, h0, hsig, hwf, rfl⟩ := (candStep_eq_some V).mp hstep
    exact ⟨r, s, rfl, hs, ⟨h0, ⟨s, firstFor_mem hs⟩, c, hc, hsig⟩, hwf, rfl⟩
  · rintro ⟨r, s, rfl, hs, ⟨h0, _, c, hc, hsig⟩, hwf, rfl⟩
    -- some candidate accepts; whichever is first hands on the same `s`
    cases hf : cands.findSome? (candStep V k cert (.resp r)) with
    | none =>
      have := List.findSome?_eq_none_iff.mp hf c hc
      rw [(candStep_eq_some V).mpr ⟨r, s, rfl, hs, h0, hsig, hwf, rfl⟩] at this
      cases this
    | some p =>
      obtain ⟨c', _, hstep⟩ := List.exists_of_findSome?_eq_some hf
      obtain ⟨r', s', hb, hs', _, _, _, rfl⟩ := (candStep_eq_some V).mp hstep
      cases hb; cases hs.symm.trans hs'; rfl

/-- Everything that is not a parsed response is no answer. -/
theorem parseOcsp_garbage (k : Nat) (cert : Cert) (cands : List Cand) :
    parseOcsp (canon k) V cert cands .garbage = none := by
  cases h : parseOcsp (canon k) V cert cands .garbage with
  | none => rfl
  | some p => obtain ⟨r, _, hb, _⟩ := (parseOcsp_eq_some V).mp h; cases hb

theorem mem_trimChain_canon {k : Nat} {ch : List ChainCert} {x : ChainCert} (h : x ∈ trimChain (canon k) ch) :
    x ∈ ch.tail ∨ ch = [x] := by
  match ch, h with
  | [y], h => exact .inr (by rw [List.mem_singleton.mp h])
  | _ :: _ :: _, h => exact .inl h

theorem mem_candidates {cert : Cert} {chain : List ChainCert} {c : ChainCert} (h : c ∈ candidates cert chain) :
    c ∈ chain ∧
    ((cert.aki = none ∧ c.subject = cert.issuer ∧ c.alg = cert.alg) ∨
     (∃ a sn i, cert.aki = some (some a) ∧ a.certSerial = some sn ∧ a.certIssuer = some i ∧ c.serial = sn ∧ c.issuer = i) ∨
     (∃ a kid, cert.aki = some (some a) ∧ a.certSerial = none ∧ a.keyId = some kid ∧ c.ski = some kid)) := by
  revert h
  fun_cases candidates cert chain
  case case1 haki =>
    intro h
    obtain ⟨hc, hm⟩ := List.mem_filter.mp h
    obtain ⟨h1, h2⟩ := Bool.and_eq_true_iff.mp hm
    exact ⟨hc, .inl ⟨haki, eq_of_beq h1, eq_of_beq h2⟩⟩
  case case2 => nofun
  case case3 a haki sn hsn =>
    intro h
    obtain ⟨hc, hm⟩ := List.mem_filter.mp h
    obtain ⟨h1, h2⟩ := Bool.and_eq_true_iff.mp hm
    cases hi : a.certIssuer with
    | none => rw [hi] at h2; cases h2
    | some i => rw [hi] at h2; exact ⟨hc, .inr (.inl ⟨a, sn, i, haki, hsn, hi, eq_of_beq h1, eq_of_beq h2⟩)⟩
  case case4 a haki hsn kid hk =>
    intro h
    obtain ⟨hc, hm⟩ := List.mem_filter.mp h
    exact ⟨hc, .inr (.inr ⟨a, kid, haki, hsn, hk, eq_of_beq hm⟩)⟩
  case case5 => nofun

end Crv.Ocsp
