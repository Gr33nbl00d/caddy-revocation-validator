import Crv.Loader
/-!
Each of the three parts of `Crv/Loader.lean` brought to one statement that `Crv/Props/C10Loader.lean` reads its theorems
off: `utils.Retry` to `retry_eq` (a `List.find?` on a range), the factory to `create_eq`, a `LoadCRL` call of the
multi-location loader to `load_cases`, a first-success loop over `order m`.
-/
namespace Crv.Loader
open Crv.Generated.Loader

/-! ### `utils.Retry` -/

theorem find?_congr {α} {p q : α → Bool} {xs : List α} (h : ∀ x ∈ xs, p x = q x) : xs.find? p = xs.find? q := by
  rw [← List.head?_filter, ← List.head?_filter, List.filter_congr h]

theorem find?_range_some {p : Nat → Bool} {n k : Nat} :
    (List.range n).find? p = some k ↔ p k = true ∧ k < n ∧ ∀ j, j < k → p j = false := by
  simp

theorem find?_range_none {p : Nat → Bool} {n : Nat} :
    (List.range n).find? p = none ↔ ∀ k, k < n → p k = false := by
  simp

theorem retryFrom_eq (out : Nat → Bool) (fuel i : Nat) : retryFrom out fuel i =
    match (List.range' i (fuel + 1)).find? out with
    | some k => (true, k + 1)
    | none => (false, i + (fuel + 1)) := by
  fun_induction retryFrom out fuel i with
  | case1 i => cases h : out i <;> simp [h]
  | case2 i h => exact absurd rfl h  -- the `retryCallsBeforeTest = false` branch: not the generated value
  | case3 fuel i h => simp [List.range'_succ, h]
  | case4 fuel i h ih => simp [List.range'_succ (n := fuel + 1), h, ih, Nat.add_assoc, Nat.add_comm 1]

theorem retryBound_eq (a : Int) : retryBound a + 1 = (max a 1).toNat := by
  show (a - 1).toNat + 1 = _  -- `retryBoundIsAttemptsMinusOne` evaluates to `true`
  rcases Int.le_total a 1 with h | h
  · rw [Int.max_eq_right h, Int.toNat_eq_zero.2 (Int.sub_nonpos_of_le h)]; rfl
  · rw [Int.max_eq_left h, ← Int.toNat_add_nat (Int.sub_nonneg_of_le h)]
    show (a - 1 + 1).toNat = _
    rw [Int.sub_add_cancel]

/-- `utils.Retry` looks for the first of `max attempts 1` calls that succeeds: everything about it is a fact about
`List.find?` on a range. -/
theorem retry_eq (a : Int) (out : Nat → Bool) : retry a out =
    match (List.range (max a 1).toNat).find? out with
    | some k => (true, k + 1)
    | none => (false, (max a 1).toNat) := by
  rw [← retryBound_eq, List.range_eq_range']
  exact (retryFrom_eq out _ 0).trans (by rw [Nat.zero_add])

theorem retry_eq_of_le (a b : Int) (out : Nat → Bool) (hab : a ≤ b) (h : (retry a out).1 = true) :
    retry b out = retry a out := by
  have hn : (max a 1).toNat ≤ (max b 1).toNat :=
    Int.toNat_le_toNat (Int.max_le.2 ⟨Int.le_trans hab (Int.le_max_left b 1), Int.le_max_right b 1⟩)
  rw [retry_eq a] at h ⊢
  split at h
  next k hk =>
    obtain ⟨h1, h2, h3⟩ := find?_range_some.1 hk
    rw [retry_eq, find?_range_some.2 ⟨h1, Nat.lt_of_lt_of_le h2 hn, h3⟩]
  · cases h

/-! ### `CreatePreferredCrlLoader` -/

theorem prefixBytes_eq : prefixBytes = [0x68, 0x74, 0x74, 0x70] := by decide +kernel

/-- The addition never wraps round. -/
theorem toNat_lowerByte (b : UInt8) :
    (lowerByte b).toNat = if 0x41 ≤ b.toNat ∧ b.toNat ≤ 0x5A then b.toNat + 0x20 else b.toNat := by
  unfold lowerByte
  split
  · rw [UInt8.toNat_ofNat', Nat.mod_eq_of_lt (by omega)]
  · rfl

theorem lowerByte_eq_iff (b : UInt8) (C : Nat) (h1 : 0x41 ≤ C) (h2 : C ≤ 0x5A) :
    lowerByte b = UInt8.ofNat (C + 0x20) ↔ b = UInt8.ofNat (C + 0x20) ∨ b = UInt8.ofNat C := by
  have hC : C + 0x20 < 256 := Nat.lt_of_le_of_lt (Nat.add_le_add_right h2 _) (by decide)
  simp only [← UInt8.toNat_inj, toNat_lowerByte, UInt8.toNat_ofNat', Nat.mod_eq_of_lt hC,
    Nat.mod_eq_of_lt (Nat.lt_of_le_of_lt (Nat.le_add_right C _) hC)]
  split
  next hb =>
    -- `b` is a capital, so it is not `C + 0x20`; and `+ 0x20` is injective
    exact ⟨fun h => .inr (Nat.add_right_cancel h), fun h => h.elim (fun e => by omega) (congrArg (· + 0x20))⟩
  next hb =>
    exact ⟨.inl, fun h => h.elim id fun e => absurd ⟨e ▸ h1, e ▸ h2⟩ hb⟩

theorem lowerByte_h (b : UInt8) : lowerByte b = 0x68 ↔ (b = 0x68 ∨ b = 0x48) :=
  lowerByte_eq_iff b 0x48 (by decide) (by decide)
theorem lowerByte_t (b : UInt8) : lowerByte b = 0x74 ↔ (b = 0x74 ∨ b = 0x54) :=
  lowerByte_eq_iff b 0x54 (by decide) (by decide)
theorem lowerByte_p (b : UInt8) : lowerByte b = 0x70 ↔ (b = 0x70 ∨ b = 0x50) :=
  lowerByte_eq_iff b 0x50 (by decide) (by decide)

theorem tryKind_url (l : Locs) : tryKind l "url" = if l.url.length > 0 then some (.url l.url) else none := by
  simp [tryKind]

theorem tryKind_file (l : Locs) : tryKind l "file" = if l.file.length > 0 then some (.file l.file) else none := by
  simp [tryKind]

theorem tryKind_cdp (l : Locs) : tryKind l "cdp" =
    if (l.cdps.filter httpPrefixed).length = 0 then some .error else some (.multi (l.cdps.filter httpPrefixed)) := by
  simp [tryKind, factoryEmptyIsError]

theorem create_eq (l : Locs) : create l =
    if l.url ≠ [] then .url l.url
    else if l.file ≠ [] then .file l.file
    else if l.cdps.filter httpPrefixed = [] then .error
    else .multi (l.cdps.filter httpPrefixed) := by
  unfold create
  simp only [factoryOrder, List.findSome?, tryKind_url, tryKind_file, tryKind_cdp, List.length_pos_iff,
    List.length_eq_zero_iff]
  by_cases hu : l.url = []
  · by_cases hf : l.file = []
    · by_cases hc : l.cdps.filter httpPrefixed = [] <;> simp [hu, hf, hc]
    · simp [hu, hf]
  · simp [hu]

/-! ### `MultiSchemesCRLLoader.LoadCRL` -/

theorem Multi.wf_iff (m : Multi) : m.wf = true ↔ ∀ l, m.last = some l → l < m.n := by
  unfold Multi.wf
  cases m.last <;> simp

/-- The indices the loop looks at and does not skip. -/
def kept (skip : Option Nat) (js : List Nat) : List Nat := js.filter (fun x => !(skip == some x))

theorem mem_kept {skip : Option Nat} {js : List Nat} {x : Nat} :
    x ∈ kept skip js ↔ x ∈ js ∧ skip ≠ some x := by
  simp [kept]

theorem kept_none (js : List Nat) : kept none js = js := by
  simp [kept]

theorem kept_some (l : Nat) (js : List Nat) : kept (some l) js = js.filter (· ≠ l) :=
  List.filter_congr fun x _ => by
    by_cases h : x = l
    · simp [h]
    · simpa [h] using fun e : l = x => h e.symm

theorem kept_cons (skip : Option Nat) (a : Nat) (js : List Nat) :
    kept skip (a :: js) = if skip == some a then kept skip js else a :: kept skip js := by
  cases h : skip == some a <;> simp [kept, h]

theorem scan_cases (out : Nat → Bool) (skip : Option Nat) (js : List Nat) :
    (scan out skip js = (none, kept skip js) ∧ ∀ x ∈ kept skip js, out x = false) ∨
    ∃ as j, as ++ [j] <+: kept skip js ∧ (∀ x ∈ as, out x = false) ∧ out j = true ∧
      scan out skip js = (some j, as ++ [j]) := by
  induction js with
  | nil => exact .inl ⟨rfl, nofun⟩
  | cons a js ih =>
    rw [scan, kept_cons]
    cases skip == some a
    · cases ho : out a
      · simp only [multiSkipsLastSuccessfulInLoop, Bool.and_false, Bool.false_eq_true, ↓reduceIte]
        rcases ih with ⟨h, hall⟩ | ⟨as, j, hp, has, hj, h⟩
        · exact .inl ⟨by rw [h], List.forall_mem_cons.2 ⟨ho, hall⟩⟩
        · exact .inr ⟨a :: as, j, List.cons_prefix_cons.2 ⟨rfl, hp⟩, List.forall_mem_cons.2 ⟨ho, has⟩, hj,
            by rw [h]; rfl⟩
      · exact .inr ⟨[], a, ⟨_, rfl⟩, nofun, ho, by simp⟩
    · simpa only [multiSkipsLastSuccessfulInLoop, Bool.and_true, ↓reduceIte] using ih

theorem scan_none_iff (out : Nat → Bool) (skip : Option Nat) (js : List Nat) :
    (scan out skip js).1 = none ↔ ∀ x ∈ kept skip js, out x = false := by
  rcases scan_cases out skip js with ⟨h, hall⟩ | ⟨as, j, hp, -, hj, h⟩ <;> rw [h]
  · exact ⟨fun _ => hall, fun _ => rfl⟩
  · exact ⟨nofun, fun hall => by rw [hall j (hp.subset (by simp))] at hj; cases hj⟩

theorem load_none (m : Multi) (out : Nat → Bool) (h : m.last = none) :
    load m out = (remember m (scan out none (List.range m.n)).1, loopResult m (scan out none (List.range m.n)).1,
      (scan out none (List.range m.n)).2) := by
  simp [load, h]

theorem load_some_ok (m : Multi) (out : Nat → Bool) (l : Nat) (h : m.last = some l) (ho : out l = true) :
    load m out = (m, some l, [l]) := by
  simp [load, h, ho, multiTriesLastSuccessfulFirst]

theorem load_some_fail (m : Multi) (out : Nat → Bool) (l : Nat) (h : m.last = some l) (ho : out l = false) :
    load m out = (remember m (scan out (some l) (List.range m.n)).1,
      loopResult m (scan out (some l) (List.range m.n)).1, l :: (scan out (some l) (List.range m.n)).2) := by
  simp [load, h, ho, multiTriesLastSuccessfulFirst]

theorem loopResult_eq (m : Multi) (r : Option Nat) : loopResult m r = r := by
  cases r <;> simp [loopResult, multiAllFailedIsError]

theorem remember_some (m : Multi) (j : Nat) : remember m (some j) = { m with last := some j } := by
  simp [remember, multiRemembersSuccess]

/-- The order in which one `LoadCRL` call asks the loaders until one answers: the remembered one, then the others as
they stand in `Loaders`. -/
def order (m : Multi) : List Nat := m.last.toList ++ kept m.last (List.range m.n)

theorem order_eq (m : Multi) : order m =
    (match m.last with | none => List.range m.n | some l => l :: (List.range m.n).filter (· ≠ l)) := by
  unfold order
  cases m.last with
  | none => rw [kept_none]; rfl
  | some l => rw [kept_some]; rfl

theorem mem_order {m : Multi} {x : Nat} : x ∈ order m ↔ x < m.n ∨ m.last = some x := by
  rw [order, List.mem_append, mem_kept, List.mem_range, Option.mem_toList]
  by_cases h : m.last = some x <;> simp [h]

theorem mem_order_of_wf {m : Multi} (h : m.wf = true) {x : Nat} : x ∈ order m ↔ x < m.n :=
  mem_order.trans ⟨fun hx => hx.elim id (m.wf_iff.1 h x), .inl⟩

theorem order_nodup (m : Multi) : (order m).Nodup := by
  rw [order_eq]
  cases m.last with
  | none => exact List.nodup_range
  | some l => exact List.nodup_cons.2 ⟨by simp, List.nodup_range.filter _⟩

theorem load_cases (m : Multi) (out : Nat → Bool) :
    (load m out = (m, none, order m) ∧ ∀ x ∈ order m, out x = false) ∨
    ∃ as j, as ++ [j] <+: order m ∧ (∀ x ∈ as, out x = false) ∧ out j = true ∧
      load m out = ({ m with last := some j }, some j, as ++ [j]) := by
  unfold order
  cases hl : m.last with
  | none =>
    rw [load_none m out hl]
    rcases scan_cases out none (List.range m.n) with ⟨h, hall⟩ | ⟨as, j, hp, has, hj, h⟩
    · exact .inl ⟨by rw [h]; rfl, hall⟩
    · exact .inr ⟨as, j, hp, has, hj, by rw [h, loopResult_eq, remember_some]⟩
  | some l =>
    cases ho : out l
    · rw [load_some_fail m out l hl ho]
      rcases scan_cases out (some l) (List.range m.n) with ⟨h, hall⟩ | ⟨as, j, hp, has, hj, h⟩
      · exact .inl ⟨by rw [h]; rfl, List.forall_mem_cons.2 ⟨ho, hall⟩⟩
      · exact .inr ⟨l :: as, j, List.cons_prefix_cons.2 ⟨rfl, hp⟩, List.forall_mem_cons.2 ⟨ho, has⟩, hj,
          by rw [h, loopResult_eq, remember_some]; rfl⟩
    · exact .inr ⟨[], l, ⟨_, rfl⟩, nofun, ho, by rw [load_some_ok m out l hl ho, ← hl]; rfl⟩

theorem runCalls_wf (m : Multi) (hist : List (Nat → Bool)) (h : m.wf = true) :
    (runCalls m hist).wf = true ∧ (runCalls m hist).n = m.n := by
  induction hist generalizing m with
  | nil => exact ⟨h, rfl⟩
  | cons o os ih =>
    rw [runCalls]
    rcases load_cases m o with ⟨h', -⟩ | ⟨as, j, hp, -, -, h'⟩ <;> rw [h']
    · exact ih m h
    · exact ih _ (decide_eq_true ((mem_order_of_wf h).1 (hp.subset (by simp))))

end Crv.Loader
