import Crv.Paths
/-!
The work_dir listing as a function `Name → Option Node` ("extensional view"): every step and the sweep depend on
the association list only through `Fs.get`, so the theorems are proved on functions and transported by `get_run`.
-/
namespace Crv.Paths

abbrev FsF := Name → Option Node

def upd (f : FsF) (n : Name) (x : Option Node) : FsF := fun m => if m = n then x else f m

@[simp] theorem upd_same (f : FsF) (n : Name) (x : Option Node) : upd f n x n = x := by simp [upd]
theorem upd_ne (f : FsF) (n m : Name) (x : Option Node) (h : m ≠ n) : upd f n x m = f m := by simp [upd, h]
@[simp] theorem upd_upd_same (f : FsF) (n : Name) (x y : Option Node) : upd (upd f n x) n y = upd f n y := by
  funext m; simp only [upd]; split <;> rfl
theorem upd_comm (f : FsF) {n m : Name} (h : n ≠ m) (x y : Option Node) : upd (upd f n x) m y = upd (upd f m y) n x := by
  funext k
  by_cases e : k = m
  · rw [e, upd_same, upd_ne _ _ _ _ h.symm, upd_same]
  · rw [upd_ne _ _ _ _ e]
    by_cases e' : k = n
    · rw [e', upd_same, upd_same]
    · rw [upd_ne _ _ _ _ e', upd_ne _ _ _ _ e', upd_ne _ _ _ _ e]
theorem upd_self (f : FsF) (n : Name) (x : Option Node) (h : f n = x) : upd f n x = f := by
  funext m; simp only [upd]; split
  · next e => rw [e, h]
  · rfl

def Step.applyF (st : Step) (f : FsF) : FsF :=
  match st with
  | .mkFile n => upd f n (some .file)
  | .writeFile _ => f
  | .rmFile n => match f n with
    | some .file => upd f n none
    | _ => f
  | .mkStore n => upd f n (some (.dir []))
  | .openStore n => match f n with
    | none => upd f n (some (.dir []))
    | some _ => f
  | .put n k v => match f n with
    | some (.dir img) => upd f n (some (.dir (img.put k v)))
    | _ => f
  | .closeDb _ => f
  | .rename a b => match f a with
    | none => f
    | some x => upd (upd f a none) b (some x)
  | .rmAll n => upd f n none
  | .hit _ => f

def runF (steps : List Step) (f : FsF) : FsF := steps.foldl (fun f st => st.applyF f) f

def sweepF (F : Facts) (f : FsF) : FsF := fun n => if matchesTemp F n then none else f n

@[simp] theorem runF_nil (f : FsF) : runF [] f = f := rfl
@[simp] theorem runF_cons (st : Step) (l : List Step) (f : FsF) : runF (st :: l) f = runF l (st.applyF f) := rfl
theorem runF_append (a b : List Step) (f : FsF) : runF (a ++ b) f = runF b (runF a f) := by
  simp [runF, List.foldl_append]

theorem applyF_mkFile (n : Name) (f : FsF) : (Step.mkFile n).applyF f = upd f n (some .file) := rfl
theorem applyF_writeFile (n : Name) (f : FsF) : (Step.writeFile n).applyF f = f := rfl
theorem applyF_mkStore (n : Name) (f : FsF) : (Step.mkStore n).applyF f = upd f n (some (.dir [])) := rfl
theorem applyF_closeDb (n : Name) (f : FsF) : (Step.closeDb n).applyF f = f := rfl
theorem applyF_rmAll (n : Name) (f : FsF) : (Step.rmAll n).applyF f = upd f n none := rfl
theorem applyF_hit (x : String) (f : FsF) : (Step.hit x).applyF f = f := rfl

theorem applyF_rmFile_of_file {n : Name} {f : FsF} (h : f n = some .file) : (Step.rmFile n).applyF f = upd f n none := by
  simp only [Step.applyF, h]

theorem applyF_openStore_of_some {n : Name} {f : FsF} {x : Node} (h : f n = some x) : (Step.openStore n).applyF f = f := by
  simp only [Step.applyF, h]

theorem applyF_put_of_dir {n : Name} {f : FsF} {img : DbImage} (h : f n = some (.dir img)) (k : DbKey) (v : Nat) :
    (Step.put n k v).applyF f = upd f n (some (.dir (img.put k v))) := by
  simp only [Step.applyF, h]

theorem applyF_rename_of_some {a : Name} {f : FsF} {x : Node} (h : f a = some x) (b : Name) :
    (Step.rename a b).applyF f = upd (upd f a none) b (some x) := by
  simp only [Step.applyF, h]

theorem applyF_rename_vacant (a b : Name) (f : FsF) (hb : f b = none) :
    (Step.rename a b).applyF f = upd (upd f a none) b (f a) := by
  cases h : f a with
  | none => simp only [Step.applyF, h]; rw [upd_self _ _ _ h, upd_self _ _ _ hb]
  | some x => simp only [Step.applyF, h]

theorem get_filter (p : Name → Bool) (fs : Fs) (n : Name) :
    Fs.get (fs.filter (fun e => p e.1)) n = if p n then Fs.get fs n else none := by
  induction fs with
  | nil => simp [Fs.get]
  | cons e rest ih =>
    rw [List.filter_cons]
    by_cases hk : e.1 = n
    · cases hp : p n <;> simp [Fs.get, hk, hp, ih]
    · cases p e.1 <;> simp [Fs.get, hk, ih]

theorem get_erase (fs : Fs) (n : Name) : Fs.get (fs.erase n) = upd (Fs.get fs) n none := by
  funext m
  rw [Fs.erase, get_filter (fun k => k ≠ n)]
  by_cases h : m = n <;> simp [upd, h]

theorem get_sweep (F : Facts) (fs : Fs) : Fs.get (sweep F fs) = sweepF F (Fs.get fs) := by
  funext m
  rw [sweep, get_filter (fun k => !matchesTemp F k)]
  cases h : matchesTemp F m <;> simp [sweepF, h]

theorem get_set (fs : Fs) (n : Name) (x : Node) : Fs.get (fs.set n x) = upd (Fs.get fs) n (some x) := by
  funext m
  simp only [Fs.set, Fs.get, get_erase, upd]
  by_cases h : n = m
  · subst h; simp
  · have : ¬ m = n := fun e => h e.symm
    simp [h, this]

theorem get_none_of_not_mem (fs : Fs) (n : Name) (h : ∀ e ∈ fs, e.1 ≠ n) : Fs.get fs n = none := by
  induction fs with
  | nil => rfl
  | cons e rest ih =>
    rw [Fs.get, if_neg (h e (List.mem_cons_self ..)), ih (fun e he => h e (List.mem_cons_of_mem _ he))]

theorem get_apply (st : Step) (fs : Fs) : Fs.get (st.apply fs) = st.applyF (Fs.get fs) := by
  cases st with
  | writeFile | closeDb | hit => rfl
  | mkFile n | mkStore n => exact get_set ..
  | rmAll n => exact get_erase ..
  | rmFile n | openStore n | put n =>
    simp only [Step.apply, Step.applyF]
    rcases Fs.get fs n with _ | _ | _ <;> simp [get_set, get_erase]
  | rename a b =>
    simp only [Step.apply, Step.applyF]
    cases Fs.get fs a <;> simp [get_set, get_erase]

theorem get_run (l : List Step) (fs : Fs) : Fs.get (run l fs) = runF l (Fs.get fs) := by
  induction l generalizing fs with
  | nil => rfl
  | cons st l ih => simp only [run, List.foldl_cons, runF_cons] at ih ⊢; rw [← get_apply]; exact ih _

theorem DbImage.get_filter (p : DbKey → Bool) (img : DbImage) (k : DbKey) :
    DbImage.get (img.filter (fun e => p e.1)) k = if p k then DbImage.get img k else none := by
  induction img with
  | nil => simp [DbImage.get]
  | cons e rest ih =>
    rw [List.filter_cons]
    by_cases hk : e.1 = k
    · cases hp : p k <;> simp [DbImage.get, hk, hp, ih]
    · cases p e.1 <;> simp [DbImage.get, hk, ih]

theorem DbImage.get_put (img : DbImage) (k k' : DbKey) (v : Nat) :
    (img.put k v).get k' = if k' = k then some v else img.get k' := by
  rw [DbImage.put, DbImage.get, DbImage.get_filter (fun a => a ≠ k)]
  by_cases h : k' = k
  · simp [h]
  · have h' : ¬ k = k' := fun e => h e.symm
    simp [h, h']

/-- Verbatim the fold inside `stagedImage` / `fullImage`, so that `rfl` identifies them. -/
def writeAll (img : DbImage) (ws : List (DbKey × Nat)) : DbImage := ws.foldl (fun img w => img.put w.1 w.2) img

theorem isSome_get_writeAll (img : DbImage) (ws : List (DbKey × Nat)) (k : DbKey) :
    ((writeAll img ws).get k).isSome = true ↔ k ∈ ws.map (·.1) ∨ (img.get k).isSome = true := by
  induction ws generalizing img with
  | nil => simp [writeAll]
  | cons w ws ih =>
    simp only [writeAll, List.foldl_cons, List.map_cons, List.mem_cons] at ih ⊢
    rw [ih, DbImage.get_put]
    by_cases h : k = w.1
    · simp only [h, if_true, Option.isSome_some, or_true, true_or]
    · simp only [h, if_false, false_or]

@[simp] def Step.names : Step → List Name
  | .mkFile n | .writeFile n | .rmFile n | .mkStore n | .openStore n | .put n _ _ | .closeDb n | .rmAll n => [n]
  | .rename a b => [a, b]
  | .hit _ => []

theorem applyF_frame (st : Step) (f : FsF) (n : Name) (h : n ∉ st.names) : st.applyF f n = f n := by
  cases st with
  | writeFile | closeDb | hit => rfl
  | mkFile m | mkStore m | rmAll m => exact upd_ne _ _ _ _ (by simpa using h)
  | rmFile m | openStore m | put m =>
    have h : n ≠ m := by simpa using h
    simp only [Step.applyF]
    rcases f m with _ | _ | _ <;> simp [upd_ne _ _ _ _ h]
  | rename a b =>
    have h : n ≠ a ∧ n ≠ b := by simpa using h
    simp only [Step.applyF]
    cases f a <;> simp [upd_ne _ _ _ _ h.1, upd_ne _ _ _ _ h.2]

def Touches (ns : List Name) (l : List Step) : Prop := ∀ st ∈ l, st.names ⊆ ns

@[simp] theorem touches_nil (ns : List Name) : Touches ns [] := fun _ h => nomatch h

@[simp] theorem touches_cons {ns : List Name} {st : Step} {l : List Step} : Touches ns (st :: l) ↔ st.names ⊆ ns ∧ Touches ns l :=
  List.forall_mem_cons

@[simp] theorem touches_append {ns : List Name} {a b : List Step} : Touches ns (a ++ b) ↔ Touches ns a ∧ Touches ns b :=
  List.forall_mem_append

@[simp] theorem touches_hits (ns : List Name) (hs : List String) : Touches ns (hs.map Step.hit) := by
  intro st h; obtain ⟨x, _, rfl⟩ := List.mem_map.mp h; exact List.nil_subset _

theorem Touches.mono {ns ms : List Name} {l : List Step} (h : Touches ns l) (hs : ns ⊆ ms) : Touches ms l :=
  fun st hst => (h st hst).trans hs

theorem Touches.runF {ns : List Name} {l : List Step} (h : Touches ns l) (f : FsF) {n : Name} (hn : n ∉ ns) :
    runF l f n = f n := by
  induction l generalizing f with
  | nil => rfl
  | cons st l ih =>
    rw [runF_cons, ih (fun s hs => h s (List.mem_cons_of_mem _ hs)),
      applyF_frame _ _ _ (fun hm => hn (h st (List.mem_cons_self ..) hm))]

/-- The prefixes of the step list: every point where the process may die. -/
def AtEveryPrefix (P : FsF → Prop) (l : List Step) (f : FsF) : Prop := ∀ k, P (runF (l.take k) f)

theorem AtEveryPrefix.mono {P Q : FsF → Prop} {l : List Step} {f : FsF} (h : AtEveryPrefix P l f) (hpq : ∀ g, P g → Q g) :
    AtEveryPrefix Q l f := fun k => hpq _ (h k)

theorem atEveryPrefix_nil (P : FsF → Prop) (f : FsF) : AtEveryPrefix P [] f ↔ P f := by
  simp [AtEveryPrefix]

theorem atEveryPrefix_cons (P : FsF → Prop) (st : Step) (l : List Step) (f : FsF) :
    AtEveryPrefix P (st :: l) f ↔ P f ∧ AtEveryPrefix P l (st.applyF f) :=
  ⟨fun h => ⟨h 0, fun k => h (k + 1)⟩, fun h k => by cases k with | zero => exact h.1 | succ k => exact h.2 k⟩

theorem atEveryPrefix_append (P : FsF → Prop) (a b : List Step) (f : FsF) :
    AtEveryPrefix P (a ++ b) f ↔ AtEveryPrefix P a f ∧ AtEveryPrefix P b (runF a f) := by
  induction a generalizing f with
  | nil => simp only [List.nil_append, atEveryPrefix_nil, runF_nil]; exact ⟨fun h => ⟨h 0, h⟩, fun h => h.2⟩
  | cons st a ih => simp only [List.cons_append, atEveryPrefix_cons, ih, runF_cons, and_assoc]

theorem AtEveryPrefix.last {P : FsF → Prop} {l : List Step} {f : FsF} (h : AtEveryPrefix P l f) : P (runF l f) := by
  have := h l.length; rwa [List.take_length] at this

theorem Touches.frame {ns : List Name} {l : List Step} (h : Touches ns l) (f : FsF) {n : Name} (hn : n ∉ ns) :
    AtEveryPrefix (fun g => g n = f n) l f :=
  fun _ => Touches.runF (fun st hst => h st (List.mem_of_mem_take hst)) f hn

theorem touches_writeSteps {ns : List Name} (F : Facts) {dir : Name} (ws : List (DbKey × Nat)) (h : dir ∈ ns) :
    Touches ns (writeSteps F dir ws) := by
  intro st hst
  simp only [writeSteps, List.mem_flatMap, List.mem_cons, List.mem_map] at hst
  obtain ⟨w, _, rfl | ⟨x, _, rfl⟩⟩ := hst
  · exact List.cons_subset.mpr ⟨h, List.nil_subset _⟩
  · exact List.nil_subset _

theorem runF_hits (hs : List String) (f : FsF) : runF (hs.map Step.hit) f = f := by
  induction hs with
  | nil => rfl
  | cons h t ih => exact ih

theorem runF_writeSteps (F : Facts) (dir : Name) (ws : List (DbKey × Nat)) (f : FsF) (img : DbImage)
    (h : f dir = some (.dir img)) :
    runF (writeSteps F dir ws) f = upd f dir (some (.dir (writeAll img ws))) := by
  induction ws generalizing f img with
  | nil => simp [writeSteps, writeAll, upd_self _ _ _ h]
  | cons w ws ih =>
    have e : writeSteps F dir (w :: ws) = (Step.put dir w.1 w.2 :: (writeHits F w.1).map Step.hit) ++ writeSteps F dir ws := by
      simp [writeSteps]
    rw [e, runF_append, runF_cons, runF_hits, applyF_put_of_dir h, ih _ (img.put w.1 w.2) (by simp)]
    simp [writeAll]

theorem mem_addH (h : List Name) (m n : Name) : n ∈ addH h m ↔ n = m ∨ n ∈ h := by
  unfold addH
  split
  · next hm => exact ⟨Or.inr, fun e => e.elim (· ▸ hm) id⟩
  · simp

@[simp] theorem runHandles_nil (h : List Name) : runHandles [] h = h := rfl
@[simp] theorem runHandles_cons (st : Step) (l : List Step) (h : List Name) :
    runHandles (st :: l) h = runHandles l (st.handles h) := rfl
theorem runHandles_append (a b : List Step) (h : List Name) : runHandles (a ++ b) h = runHandles b (runHandles a h) := by
  simp [runHandles, List.foldl_append]

theorem runHandles_inert (l : List Step) (h : List Name) (hl : ∀ st ∈ l, ∀ h, st.handles h = h) : runHandles l h = h := by
  induction l with
  | nil => rfl
  | cons st l ih => rw [runHandles_cons, hl st (List.mem_cons_self ..), ih (fun s hs => hl s (List.mem_cons_of_mem _ hs))]

@[simp] theorem runHandles_hits (hs : List String) (h : List Name) : runHandles (hs.map Step.hit) h = h :=
  runHandles_inert _ _ (fun st hst _ => by obtain ⟨x, _, rfl⟩ := List.mem_map.mp hst; rfl)

@[simp] theorem runHandles_writeSteps (F : Facts) (dir : Name) (ws : List (DbKey × Nat)) (h : List Name) :
    runHandles (writeSteps F dir ws) h = h := by
  apply runHandles_inert
  intro st hst
  simp only [writeSteps, List.mem_flatMap, List.mem_cons, List.mem_map] at hst
  obtain ⟨w, _, rfl | ⟨x, _, rfl⟩⟩ := hst <;> intro _ <;> rfl

end Crv.Paths
