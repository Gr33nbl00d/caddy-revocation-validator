import Crv.Proofs.Paths
import Crv.Proofs.PathsOps
/-!
The lifecycle machine (Part D of `Crv.Paths`) with the regenerated operation lists. Repository operations are summarised by
what they preserve (`RepoStep`), events by one relation between the states before and after (`Hist`) that composes along a
history (`runEvs_hist`).
-/
namespace Crv.Paths
open Crv.Generated

theorem le_foldl_max (l : List Nat) (a x : Nat) (h : x ≤ a ∨ x ∈ l) : x ≤ l.foldl max a := by
  induction l generalizing a with
  | nil => exact h.elim id (fun h => nomatch h)
  | cons y l ih =>
    refine ih _ (h.elim (fun h => Or.inl (Nat.le_trans h (Nat.le_max_left ..))) fun h => ?_)
    rcases List.mem_cons.mp h with rfl | h
    · exact Or.inl (Nat.le_max_right ..)
    · exact Or.inr h

theorem get_none_of_long (fs : Fs) (n : Name) (h : freshLen fs ≤ n.length) : Fs.get fs n = none :=
  get_none_of_not_mem fs n fun e he heq =>
    Nat.not_succ_le_self _ (Nat.le_trans h
      (heq ▸ le_foldl_max _ 0 _ (Or.inr (List.mem_map.mpr ⟨e, he, rfl⟩))))

theorem tmpName_length (F : Facts) (len : Nat) :
    (tmpName F len).length = F.tempPrefix.length + len + F.tempSuffix.length := by
  simp [tmpName, Nat.add_assoc]

theorem tmpName_matches (F : Facts) (len : Nat) : matchesTemp F (tmpName F len) = true := by
  unfold matchesTemp tmpName
  rw [matchesPattern_iff]
  refine ⟨List.replicate len 120, rfl, ?_⟩
  intro h
  have := List.eq_of_mem_replicate h
  exact absurd this (by decide)

theorem mkScn_namesOk (sys : Sys) (v : Bool) (id : Name) (o : Origin) (hasLoc : Bool) (hid : matchesTemp pathFacts id = false) :
    NamesOk (mkScn pathFacts sys v id o hasLoc) (Fs.get sys.fs) := by
  -- temp names match the pattern (`id` does not), differ when their lengths differ, and are longer than every listed name
  have hne : ∀ len, tmpName pathFacts len ≠ id := by
    intro len e
    have := tmpName_matches pathFacts len
    rw [e, hid] at this; cases this
  have hlen : ∀ a b, a ≠ b → tmpName pathFacts a ≠ tmpName pathFacts b := by
    intro a b hab e
    have := congrArg List.length e
    rw [tmpName_length, tmpName_length] at this
    exact hab (Nat.add_left_cancel (Nat.add_right_cancel this))
  have hfresh : ∀ k, Fs.get sys.fs (tmpName pathFacts (freshLen sys.fs + k)) = none := by
    intro k
    apply get_none_of_long
    rw [tmpName_length]
    exact Nat.le_trans (Nat.le_add_right _ k) (Nat.le_trans (Nat.le_add_left ..) (Nat.le_add_right ..))
  have l1 := Nat.ne_of_lt (Nat.lt_succ_self (freshLen sys.fs))
  have l2 := Nat.ne_of_lt (Nat.lt_succ_self (freshLen sys.fs + 1))
  have l3 := Nat.ne_of_lt (Nat.lt_succ_of_lt (Nat.lt_succ_self (freshLen sys.fs)))
  exact { ts := hlen _ _ l1, ta := hlen _ _ l3, sa := hlen _ _ l2, tid := hne _, sid := hne _, aid := hne _,
          ft := hfresh 0, fs := hfresh 1, fa := hfresh 2 }

theorem hasEntry_setLoaded (es : List (Name × Bool)) (id h : Name) (b : Bool) :
    hasEntry (setLoaded es id b) h = hasEntry es h := by
  induction es with
  | nil => rfl
  | cons e rest ih =>
    simp only [setLoaded, List.map_cons, hasEntry, List.any_cons] at ih ⊢
    rw [ih]
    by_cases he : e.1 = id <;> simp [he]

theorem hasEntry_cons (es : List (Name × Bool)) (id h : Name) (b : Bool) :
    hasEntry ((id, b) :: es) h = (decide (id = h) || hasEntry es h) := by
  simp [hasEntry]

/-- Every open handle belongs to an entry: `Cleanup` closes the stores of the entries and nothing else, so this is what makes
`handles = []` afterwards (`cleanup_of_held`). -/
def HandlesOk (sys : Sys) : Prop := ∀ h ∈ sys.handles, hasEntry sys.inst.entries h = true

/-- `b` results from `a` by repository operations (entries added, loads, refreshes). The field `disk` is carried along
(`refl`, `trans`) and read by nothing else. -/
structure RepoStep (a b : Sys) : Prop where
  disk : b.disk = a.disk
  wd : b.wd = a.wd
  registered : b.registered = a.registered
  cfgSet : b.inst.cfgSet = a.inst.cfgSet
  repo : b.inst.repo = a.inst.repo
  ticker : b.inst.ticker = a.inst.ticker
  stop : b.inst.stop = a.inst.stop
  dropped : b.dropped = a.dropped
  entries : ∀ h, hasEntry a.inst.entries h = true → hasEntry b.inst.entries h = true
  handles : HandlesOk a → HandlesOk b
  temp : ∀ n, matchesTemp pathFacts n = true → Fs.get b.fs n = Fs.get a.fs n
  dirs : ∀ n img, Fs.get a.fs n = some (.dir img) → ∃ img', Fs.get b.fs n = some (.dir img')

theorem RepoStep.refl (a : Sys) : RepoStep a a :=
  ⟨rfl, rfl, rfl, rfl, rfl, rfl, rfl, rfl, fun _ h => h, fun h => h, fun _ _ => rfl, fun _ img h => ⟨img, h⟩⟩

theorem RepoStep.trans {a b c : Sys} (x : RepoStep a b) (y : RepoStep b c) : RepoStep a c :=
  ⟨y.disk.trans x.disk, y.wd.trans x.wd, y.registered.trans x.registered, y.cfgSet.trans x.cfgSet, y.repo.trans x.repo,
   y.ticker.trans x.ticker, y.stop.trans x.stop, y.dropped.trans x.dropped,
   fun h hh => y.entries h (x.entries h hh), fun h => y.handles (x.handles h),
   fun n hn => (y.temp n hn).trans (x.temp n hn),
   fun n img h => by obtain ⟨i, hi⟩ := x.dirs n img h; exact y.dirs n i hi⟩

theorem repoStep_steps (sys : Sys) (sc : Scn) (wl : Bool) (steps : List Step) (S : Shape sc wl steps)
    (hn : NamesOk sc (Fs.get sys.fs)) (hid : matchesTemp pathFacts sc.id = false)
    (he : hasEntry sys.inst.entries sc.id = true) : RepoStep sys (applySteps sys steps) := by
  have hfs : Fs.get (applySteps sys steps).fs = runF steps (Fs.get sys.fs) := get_run _ _
  refine ⟨rfl, rfl, rfl, rfl, rfl, rfl, rfl, rfl, fun _ h => h, ?_, ?_, ?_⟩
  · intro ok h hmem
    rcases S.handles _ _ hmem with e | e
    · exact ok h e
    · exact e ▸ he
  · intro n hn'
    rw [hfs]
    rcases S.full _ hn with e | ⟨d, _, _, e⟩ <;> rw [e]
    exact upd_ne _ _ _ _ (fun e' => by rw [e', hid] at hn'; cases hn')
  · intro n img h
    rw [hfs]
    rcases S.full _ hn with e | ⟨d, _, _, e⟩ <;> rw [e]
    · exact ⟨img, h⟩
    · by_cases hnid : n = sc.id
      · exact ⟨stagedOf sc d wl, by rw [hnid, upd_same]⟩
      · rw [upd_ne _ _ _ _ hnid]; exact ⟨img, h⟩

theorem repoStep_doLoad (v : Bool) (sys : Sys) (id : Name) (o : Origin) (hid : matchesTemp pathFacts id = false)
    (he : hasEntry sys.inst.entries id = true) : RepoStep sys (doLoad pathFacts v sys id o).1 := by
  have base := repoStep_steps sys (mkScn pathFacts sys v id o sys.disk) _ _ (load_shape _)
    (mkScn_namesOk sys v id o _ hid) hid he
  fun_cases doLoad pathFacts v sys id o
  · refine RepoStep.trans base ⟨rfl, rfl, rfl, rfl, rfl, rfl, rfl, rfl, ?_, ?_, fun _ _ => rfl, fun _ img h => ⟨img, h⟩⟩
    · intro h hh; simpa [hasEntry_setLoaded] using hh
    · intro ok h hmem; simpa [hasEntry_setLoaded] using ok h hmem
  · exact base

theorem repoStep_doRefresh (v : Bool) (sys : Sys) (id : Name) (o : Origin) (hid : matchesTemp pathFacts id = false)
    (he : hasEntry sys.inst.entries id = true) : RepoStep sys (doRefresh pathFacts v sys id o).1 := by
  have base := repoStep_steps sys (mkScn pathFacts sys v id o true) _ _ (refresh_shape _)
    (mkScn_namesOk sys v id o _ hid) hid he
  fun_cases doRefresh pathFacts v sys id o <;> exact base

theorem repoStep_newEntry (sys : Sys) (id : Name) (b : Bool) :
    RepoStep sys { sys with inst := { sys.inst with entries := (id, b) :: sys.inst.entries } } :=
  ⟨rfl, rfl, rfl, rfl, rfl, rfl, rfl, rfl, fun h hh => by simp [hasEntry_cons, hh],
   fun ok h hm => by simp [hasEntry_cons, ok h hm], fun _ _ => rfl, fun _ img h => ⟨img, h⟩⟩

theorem repoStep_liveStep (sys : Sys) (id : Name) (st : Step) (hst : st = .openStore id ∨ ∃ k v, st = .put id k v)
    (hid : matchesTemp pathFacts id = false) (he : hasEntry sys.inst.entries id = true) :
    RepoStep sys (applySteps sys [st]) := by
  have hfs : Fs.get (applySteps sys [st]).fs = st.applyF (Fs.get sys.fs) := get_apply ..
  have frame : ∀ n, n ≠ id → st.applyF (Fs.get sys.fs) n = Fs.get sys.fs n := fun n hn =>
    applyF_frame _ _ _ (by rcases hst with rfl | ⟨k, v, rfl⟩ <;> simpa using hn)
  refine ⟨rfl, rfl, rfl, rfl, rfl, rfl, rfl, rfl, fun _ h => h, fun ok h hm => ?_, fun n hn => ?_, fun n img h => ?_⟩
  · have hm : h ∈ st.handles sys.handles := hm
    rcases hst with rfl | ⟨k, v, rfl⟩
    · exact ((mem_addH ..).mp hm).elim (fun e => e ▸ he) (ok h)
    · exact ok h hm
  · rw [hfs, frame n fun e => by rw [e, hid] at hn; cases hn]
  · rw [hfs]
    by_cases hn : n = id
    · subst hn
      rcases hst with rfl | ⟨k, v, rfl⟩
      · exact ⟨img, by rw [applyF_openStore_of_some h, h]⟩
      · exact ⟨_, by rw [applyF_put_of_dir h, upd_same]⟩
    · exact ⟨img, by rw [frame n hn, h]⟩

theorem repoStep_addEntry (sys : Sys) (id : Name) (hid : matchesTemp pathFacts id = false) :
    RepoStep sys (addEntry sys id) ∧ hasEntry (addEntry sys id).inst.entries id = true := by
  unfold addEntry
  cases hex : hasEntry sys.inst.entries id with
  | true => exact ⟨RepoStep.refl _, hex⟩
  | false =>
    -- Entry first, the reverse of `addEntry`, which conses it on last (the same state: `applySteps` touches `fs`/`handles`,
    -- the entry `inst`): then the handle `openStore` adds already belongs to an entry (`he` of `repoStep_liveStep`, for
    -- `HandlesOk`).
    have he : ∀ b, hasEntry ((id, b) :: sys.inst.entries) id = true := fun b => by simp [hasEntry_cons]
    cases hd : sys.disk with
    | false => exact ⟨repoStep_newEntry sys id false, he _⟩
    | true =>
      simp only [Bool.false_eq_true, ↓reduceIte, Bool.true_and]
      have new := repoStep_newEntry sys id (imageLoaded (applySteps sys [Step.openStore id]).fs id)
      have opened := repoStep_liveStep _ id _ (Or.inl rfl) hid (he _) |> new.trans
      split
      · exact ⟨opened.trans (repoStep_liveStep _ id _ (Or.inr ⟨_, _, rfl⟩) hid (he _)), he _⟩
      · exact ⟨opened, he _⟩

theorem repoStep_addConfigured (v : Bool) (sys : Sys) (l : Location) (hid : matchesTemp pathFacts l.id = false) :
    RepoStep sys (addConfigured pathFacts v sys l).1 := by
  obtain ⟨r1, e1⟩ := repoStep_addEntry sys l.id hid
  unfold addConfigured
  simp only []
  cases hl : isLoaded (addEntry sys l.id).inst.entries l.id with
  | true =>
    simp only [↓reduceIte, Bool.false_eq_true]
    exact r1.trans (repoStep_doRefresh v _ l.id l.update hid e1)
  | false =>
    simp only [Bool.false_eq_true, ↓reduceIte]
    have r2 := repoStep_doLoad v (addEntry sys l.id) l.id l.first hid e1
    cases hf : (doLoad pathFacts v (addEntry sys l.id) l.id l.first).2 with
    | true => simp only [↓reduceIte]; exact r1.trans r2
    | false =>
      simp only [Bool.false_eq_true, ↓reduceIte]
      exact (r1.trans r2).trans (repoStep_doRefresh v _ l.id l.update hid (r2.entries _ e1))

theorem repoStep_addAll (v : Bool) (sys : Sys) (ls : List Location) (hids : ∀ l ∈ ls, matchesTemp pathFacts l.id = false) :
    RepoStep sys (addAll pathFacts v sys ls).1 := by
  fun_induction addAll pathFacts v sys ls with
  | case1 => exact RepoStep.refl _
  | case2 sys l ls sys' he => exact he ▸ repoStep_addConfigured v sys l (hids l (by simp))
  | case3 sys l ls sys' he ih =>
    have r1 := he ▸ repoStep_addConfigured v sys l (hids l (by simp))
    exact r1.trans (ih fun x hx => hids x (by simp [hx]))

-- Two statements of `Cleanup` without their guard: when the guard is false the assignment changes nothing.
theorem cleanupOp_stopTicker (sys : Sys) : cleanupOp sys .stopTicker = { sys with inst := { sys.inst with ticker := false } } := by
  obtain ⟨disk, wd, fs, reg, hnd, ⟨cfg, repo, es, tick, stop⟩, dr⟩ := sys
  cases tick <;> rfl

theorem cleanupOp_closeStop (sys : Sys) : cleanupOp sys .closeStop = { sys with inst := { sys.inst with stop := false } } := by
  obtain ⟨disk, wd, fs, reg, hnd, ⟨cfg, repo, es, tick, stop⟩, dr⟩ := sys
  cases stop <;> rfl

theorem cleanup_eq (sys : Sys) : cleanup pathFacts sys =
    { sys with
      registered := if sys.inst.cfgSet then sys.registered.filter (· ≠ sys.wd) else sys.registered
      handles := if sys.inst.repo then sys.handles.filter (fun h => !hasEntry sys.inst.entries h) else sys.handles
      inst := { sys.inst with ticker := false, stop := false } } := by
  show cleanupOp (cleanupOp (cleanupOp (cleanupOp sys .deregister) .closeRepository) .stopTicker) .closeStop = _
  rw [cleanupOp_closeStop, cleanupOp_stopTicker]
  obtain ⟨disk, wd, fs, reg, hnd, ⟨cfg, repo, es, tick, stop⟩, dr⟩ := sys
  cases cfg <;> cases repo <;> rfl

theorem cleanup_fs (sys : Sys) : (cleanup pathFacts sys).fs = sys.fs := by rw [cleanup_eq]

/-- Nothing of this checker is held by the process: `regs` are the registrations of other instances. -/
structure Idle (sys : Sys) (regs : List Name) : Prop where
  registered : sys.registered = regs
  handles : sys.handles = []
  ticker : sys.inst.ticker = false
  stop : sys.inst.stop = false

/-- The checker holds its work_dir and a repository (fully or half provisioned). -/
structure Held (sys : Sys) (regs : List Name) : Prop where
  registered : sys.registered = sys.wd :: regs
  cfgSet : sys.inst.cfgSet = true
  repo : sys.inst.repo = true
  handles : HandlesOk sys

/-- The checker is provisioned. -/
structure Live (sys : Sys) (regs : List Name) : Prop extends Held sys regs where
  ticker : sys.inst.ticker = true
  stop : sys.inst.stop = true

theorem filter_ne_self (regs : List Name) (wd : Name) (h : wd ∉ regs) : regs.filter (· ≠ wd) = regs := by
  apply List.filter_eq_self.mpr
  intro a ha
  simp only [ne_eq, decide_eq_true_eq]
  intro e; exact h (e ▸ ha)

theorem cleanup_of_held (sys : Sys) (regs : List Name) (hwd : sys.wd ∉ regs) (L : Held sys regs) :
    Idle (cleanup pathFacts sys) regs := by
  rw [cleanup_eq]
  refine ⟨?_, ?_, rfl, rfl⟩
  · show (if sys.inst.cfgSet then _ else _) = regs
    rw [L.cfgSet, L.registered]
    simp only [↓reduceIte, ne_eq, List.filter_cons, not_true_eq_false, decide_false, Bool.false_eq_true]
    exact filter_ne_self regs sys.wd hwd
  · show (if sys.inst.repo then _ else _) = []
    rw [L.repo, if_pos rfl]
    exact List.filter_eq_nil_iff.mpr fun h hm => by simp [L.handles h hm]

theorem cleanup_of_idle (sys : Sys) (regs : List Name) (hwd : sys.wd ∉ regs) (I : Idle sys regs) :
    Idle (cleanup pathFacts sys) regs := by
  rw [cleanup_eq]
  refine ⟨?_, ?_, rfl, rfl⟩
  · show (if sys.inst.cfgSet then _ else _) = regs
    rw [I.registered]
    split
    · exact filter_ne_self regs sys.wd hwd
    · rfl
  · show (if sys.inst.repo then _ else _) = []
    rw [I.handles]; split <;> rfl

theorem cleanup_idle (sys : Sys) (regs : List Name) (hwd : sys.wd ∉ regs) (h : Idle sys regs ∨ Live sys regs) :
    Idle (cleanup pathFacts sys) regs :=
  h.elim (cleanup_of_idle sys regs hwd) (fun L => cleanup_of_held sys regs hwd L.toHeld)

/-- The state `Provision` works on once registration has succeeded: registered, config and repository set, swept. -/
def afterSweep (sys : Sys) : Sys :=
  { sys with inst := { cfgSet := true, repo := true }, registered := sys.wd :: sys.registered, fs := sweep pathFacts sys.fs }

theorem provisionOps_eq : pathFacts.provisionOps =
    [ProvisionOp.register, ProvisionOp.setConfig, ProvisionOp.newRepository, ProvisionOp.sweep,
     ProvisionOp.addUrls, ProvisionOp.addFiles, ProvisionOp.initTicker] := rfl

/-- `Provision` on a fresh checker object, by outcome. -/
theorem provision_spec (v : Bool) (urls files : List Location) (sys : Sys)
    (hu : ∀ l ∈ urls, matchesTemp pathFacts l.id = false) (hf : ∀ l ∈ files, matchesTemp pathFacts l.id = false) :
    (sys.wd ∈ sys.registered → provision pathFacts v urls files sys = ({ sys with inst := {} }, false)) ∧
    (sys.wd ∉ sys.registered → ∃ mid, RepoStep (afterSweep sys) mid ∧
      (provision pathFacts v urls files sys = ({ mid with inst := { mid.inst with ticker := true, stop := true } }, true) ∨
       provision pathFacts v urls files sys = (cleanup pathFacts mid, false))) := by
  constructor
  · intro hbusy
    have hc : cleanup pathFacts { sys with inst := {} } = { sys with inst := {} } := cleanup_eq _
    simp only [provision, provisionOps_eq, List.foldl_cons, List.foldl_nil, provisionOp, Bool.false_eq_true, ↓reduceIte, hbusy]
    exact congrArg (·, false) hc
  · intro hfree
    -- the statements before `addUrls` cannot fail: they lead to `afterSweep sys`
    have e : provision pathFacts v urls files sys =
        (let r := [ProvisionOp.addFiles, .initTicker].foldl (provisionOp pathFacts v urls files)
          (addAll pathFacts v (afterSweep sys) urls)
         if r.2 then (cleanup pathFacts r.1, false) else (r.1, true)) := by
      simp [provision, provisionOps_eq, provisionOp, hfree, afterSweep]
    rw [e]
    have r1 := repoStep_addAll v (afterSweep sys) urls hu
    rcases h1 : addAll pathFacts v (afterSweep sys) urls with ⟨s1, _ | _⟩ <;> rw [h1] at r1
    · have r2 := repoStep_addAll v s1 files hf
      rcases h2 : addAll pathFacts v s1 files with ⟨s2, _ | _⟩ <;> rw [h2] at r2
      · exact ⟨s2, r1.trans r2, Or.inl (by simp [provisionOp, h2])⟩
      · exact ⟨s2, r1.trans r2, Or.inr (by simp [provisionOp, h2])⟩
    · exact ⟨s1, r1, Or.inr (by simp [provisionOp])⟩

theorem held_of_repoStep (sys mid : Sys) (regs : List Name) (hreg : sys.registered = regs) (hh : sys.handles = [])
    (r : RepoStep (afterSweep sys) mid) : Held mid regs := by
  have ok1 : HandlesOk (afterSweep sys) := by
    intro h hm
    rw [show (afterSweep sys).handles = sys.handles from rfl, hh] at hm; cases hm
  refine ⟨?_, r.cfgSet, r.repo, r.handles ok1⟩
  rw [r.registered, r.wd]; simp [afterSweep, hreg]

/-- Location identifiers never match the temp pattern. True of every real identifier (a 64-hex store name:
`C20.sweep_spares_live`); needed because the machine takes identifiers as plain names. -/
def EvOk : Ev → Prop
  | .provision _ urls files =>
    (∀ l ∈ urls, matchesTemp pathFacts l.id = false) ∧ (∀ l ∈ files, matchesTemp pathFacts l.id = false)
  | .handshake _ id _ => matchesTemp pathFacts id = false
  | .refresh _ id _ => matchesTemp pathFacts id = false
  | .cleanup => True
  | .foreign _ _ => True

instance : DecidablePred EvOk := fun ev => by
  cases ev <;> unfold EvOk <;> exact inferInstance

/-- Every temp-pattern name in work_dir was put there by somebody else. -/
def TempOk (sys : Sys) : Prop := ∀ n, matchesTemp pathFacts n = true → Fs.get sys.fs n ≠ none → n ∈ sys.dropped

theorem get_afterSweep (sys : Sys) (n : Name) :
    Fs.get (afterSweep sys).fs n = if matchesTemp pathFacts n then none else Fs.get sys.fs n := by
  show Fs.get (sweep pathFacts sys.fs) n = _
  rw [get_sweep]; rfl

/-- Work_dir after `Provision` got past the registration (whether it then succeeds or not): swept. -/
theorem provision_fs (sys mid : Sys) (r : RepoStep (afterSweep sys) mid) :
    (∀ n, matchesTemp pathFacts n = true → Fs.get mid.fs n = none) ∧
    (∀ n img, matchesTemp pathFacts n = false → Fs.get sys.fs n = some (.dir img) → ∃ img', Fs.get mid.fs n = some (.dir img')) := by
  constructor
  · intro n hn
    rw [r.temp n hn, get_afterSweep, hn]; rfl
  · intro n img hn h
    apply r.dirs n img
    rw [get_afterSweep, hn]; exact h

/-- What every event does to the machine, as one relation between the state before and a later state: the fields are the
facts that hold of every history (`C20.no_residue`, `C20.lifecycle_invariant`). Reflexive and transitive
(`Hist.refl/trans`), so it holds along any event list (`runEvs_hist`). -/
structure Hist (a b : Sys) : Prop where
  wd : b.wd = a.wd
  temp : TempOk a → TempOk b
  dirs : ∀ n img, matchesTemp pathFacts n = false → Fs.get a.fs n = some (.dir img) → ∃ img', Fs.get b.fs n = some (.dir img')
  state : ∀ regs, a.wd ∉ regs → Idle a regs ∨ Live a regs → Idle b regs ∨ Live b regs

theorem Hist.refl (a : Sys) : Hist a a := ⟨rfl, id, fun _ img _ h => ⟨img, h⟩, fun _ _ h => h⟩

theorem Hist.trans {a b c : Sys} (x : Hist a b) (y : Hist b c) : Hist a c :=
  ⟨y.wd.trans x.wd, y.temp ∘ x.temp, fun n img hn h => (x.dirs n img hn h).elim fun i hi => y.dirs n i hn hi,
   fun regs hw h => y.state regs (x.wd ▸ hw) (x.state regs hw h)⟩

theorem hist_repo {a b : Sys} (hp : provisioned a = true) (r : RepoStep a b) : Hist a b := by
  refine ⟨r.wd, fun ok n hn hne => ?_, fun n img _ h => r.dirs n img h, fun regs _ h => ?_⟩
  · rw [r.dropped]
    exact ok n hn (r.temp n hn ▸ hne)
  · rcases h with I | L
    · simp [provisioned, I.stop] at hp
    · exact Or.inr ⟨⟨by rw [r.registered, r.wd]; exact L.registered, r.cfgSet.trans L.cfgSet, r.repo.trans L.repo,
        r.handles L.handles⟩, r.ticker.trans L.ticker, r.stop.trans L.stop⟩

theorem hist_cleanup (a : Sys) : Hist a (cleanup pathFacts a) :=
  ⟨by rw [cleanup_eq], by rw [TempOk, TempOk, cleanup_eq]; exact id, by rw [cleanup_fs]; exact fun _ img _ h => ⟨img, h⟩,
   fun regs hw h => Or.inl (cleanup_idle a regs hw h)⟩

/-- `Provision` past the registration: `b` is the state it ends in, live or cleaned up. -/
theorem hist_provision {sys mid b : Sys} (hfree : sys.wd ∉ sys.registered) (r : RepoStep (afterSweep sys) mid)
    (hb : b = { mid with inst := { mid.inst with ticker := true, stop := true } } ∨ b = cleanup pathFacts mid) : Hist sys b := by
  obtain ⟨h1, h2⟩ := provision_fs sys mid r
  have hfs : b.fs = mid.fs ∧ b.wd = mid.wd := by rcases hb with rfl | rfl <;> simp [cleanup_eq]
  refine ⟨hfs.2.trans r.wd, fun _ n hn hne => absurd (h1 n hn) (hfs.1 ▸ hne), hfs.1 ▸ h2, fun regs hw h => ?_⟩
  have I : Idle sys regs := h.resolve_right (fun L => hfree (by rw [L.registered]; simp))
  have H := held_of_repoStep sys mid regs I.registered I.handles r
  rcases hb with rfl | rfl
  · exact Or.inr ⟨⟨H.registered, H.cfgSet, H.repo, H.handles⟩, rfl, rfl⟩
  · exact Or.inl (cleanup_of_held mid regs (by rw [r.wd]; exact hw) H)

theorem hist_foreign (sys : Sys) (m : Name) (x : Node) (hg : Fs.get sys.fs m = none) :
    Hist sys { sys with fs := sys.fs.set m x, dropped := m :: sys.dropped } := by
  have get : ∀ n, n ≠ m → Fs.get (sys.fs.set m x) n = Fs.get sys.fs n := fun n hnm => by rw [get_set, upd_ne _ _ _ _ hnm]
  refine ⟨rfl, fun ok n hn hne => ?_, fun n img _ h => ?_, fun regs _ h => ?_⟩
  · by_cases hnm : n = m
    · exact hnm ▸ List.mem_cons_self ..
    · exact List.mem_cons_of_mem _ (ok n hn (by rw [← get n hnm]; exact hne))
  · exact ⟨img, (get n (fun e => by rw [e, hg] at h; cases h)).trans h⟩
  · exact h.imp (fun I => ⟨I.registered, I.handles, I.ticker, I.stop⟩)
      (fun L => ⟨⟨L.registered, L.cfgSet, L.repo, L.handles⟩, L.ticker, L.stop⟩)

theorem stepEv_hist (sys : Sys) (ev : Ev) (hok : EvOk ev) : Hist sys (stepEv pathFacts sys ev) := by
  fun_cases stepEv pathFacts sys ev
  case case1 v urls files hbusy r =>
    rw [show r = _ from congrArg Prod.fst ((provision_spec v urls files sys hok.1 hok.2).1 hbusy)]
    -- `{ { sys with inst := {} } with inst := sys.inst }` is `sys` (eta): the failed attempt leaves the holder's fields alone
    exact Hist.refl sys
  case case2 v urls files hfree =>
    obtain ⟨mid, r, e⟩ := (provision_spec v urls files sys hok.1 hok.2).2 hfree
    exact hist_provision hfree r (e.imp (congrArg Prod.fst) (congrArg Prod.fst))
  case case3 v id o hp _ _ => exact hist_repo hp (repoStep_addEntry sys id hok).1
  case case4 v id o hp _ _ =>
    obtain ⟨r1, e1⟩ := repoStep_addEntry sys id hok
    exact hist_repo hp (r1.trans (repoStep_doLoad v _ id o hok e1))
  case case6 v id o h _ =>
    obtain ⟨hp, he⟩ := Bool.and_eq_true_iff.mp h
    exact hist_repo hp (repoStep_doRefresh v sys id o hok he)
  case case7 v id o h _ =>
    obtain ⟨hp, he⟩ := Bool.and_eq_true_iff.mp h
    exact hist_repo hp (repoStep_doLoad v sys id o hok he)
  case case9 => exact hist_cleanup sys
  case case10 m x hg => exact hist_foreign sys m x hg
  -- left over: case5 (handshake, not provisioned), case8 (refresh without a provisioned checker or entry), case11 (foreign
  -- name already taken): the event changes nothing
  all_goals exact Hist.refl sys

theorem runEvs_hist (sys : Sys) (evs : List Ev) (hok : ∀ ev ∈ evs, EvOk ev) : Hist sys (runEvs pathFacts sys evs) := by
  induction evs generalizing sys with
  | nil => exact Hist.refl sys
  | cons ev evs ih =>
    exact (stepEv_hist sys ev (hok ev (List.mem_cons_self ..))).trans (ih _ fun e he => hok e (List.mem_cons_of_mem _ he))

end Crv.Paths
