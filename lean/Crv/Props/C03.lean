import Crv.Mode
import Crv.Proofs.Skeleton
import Crv.Generated.Mode
/-!
C03 — Mode composition. All statements are about the definitions the translator regenerates
from revocation.go / configparser.go on every run (`Crv.Generated.*`).
-/
namespace Crv.Props.C03
open Crv Crv.Generated

/-- The documented table (/repo/README.md, "Config Structure / mode"): which mechanisms a mode enables. -/
def docOcsp : Mode → Bool
  | .preferOCSP | .preferCRL | .ocspOnly => true
  | .crlOnly | .disabled => false
def docCrl : Mode → Bool
  | .preferOCSP | .preferCRL | .crlOnly => true
  | .ocspOnly | .disabled => false

theorem ocspEnabled_doc (m : Mode) : ocspEnabled m = docOcsp m := by cases m <;> rfl
theorem crlEnabled_doc (m : Mode) : crlEnabled m = docCrl m := by cases m <;> rfl

/-- No verified chain: accepted, nothing consulted (the TLS layer has already verified; see DESIGN §5 C03). -/
theorem empty_chains (m : Mode) (o c : MechOut) :
    verifyProg.run m (envOf o c) false = { verdict := .accept, consulted := [] } := rfl

/-- `chainsNonEmpty = true`: there is a verified chain; `empty_chains` is the other case. -/
theorem run_nonempty (m : Mode) (o c : MechOut) :
    verifyProg.run m (envOf o c) true =
      { verdict := if (docOcsp m = true ∧ o ≠ .good) ∨ (docCrl m = true ∧ c ≠ .good) then .reject else .accept
        consulted := (if docOcsp m then [Mech.ocsp] else []) ++
          (if docCrl m && !(docOcsp m && o != .good) then [Mech.crl] else []) } := by
  cases m <;> cases o <;> cases c <;> rfl

/-- Main statement: with a non-empty verified chain list, the handshake is rejected iff a
mechanism enabled by the mode reports revoked or an error; it never panics. -/
theorem verify_reject_iff (m : Mode) (o c : MechOut) :
    (verifyProg.run m (envOf o c) true).verdict = .reject ↔
      (docOcsp m = true ∧ o ≠ .good) ∨ (docCrl m = true ∧ c ≠ .good) := by
  rw [run_nonempty]; split <;> simp [*]

theorem verify_accept_iff (m : Mode) (o c : MechOut) :
    (verifyProg.run m (envOf o c) true).verdict = .accept ↔
      ¬ ((docOcsp m = true ∧ o ≠ .good) ∨ (docCrl m = true ∧ c ≠ .good)) := by
  rw [run_nonempty]; split <;> simp [*]

theorem verify_never_panics (m : Mode) (o c : MechOut) (ne : Bool) :
    (verifyProg.run m (envOf o c) ne).verdict ≠ .panic := by
  cases ne
  · rw [empty_chains]; simp
  · rw [run_nonempty]; split <;> simp

/-- What is consulted: OCSP first when enabled; CRL when enabled and OCSP did not already reject. -/
theorem verify_consulted (m : Mode) (o c : MechOut) :
    (verifyProg.run m (envOf o c) true).consulted =
      (if docOcsp m then [Mech.ocsp] else []) ++
      (if docCrl m && !(docOcsp m && o != .good) then [Mech.crl] else []) :=
  congrArg Run.consulted (run_nonempty m o c)

theorem consulted_enabled (m : Mode) (o c : MechOut) (ne : Bool) :
    (Mech.ocsp ∈ (verifyProg.run m (envOf o c) ne).consulted → docOcsp m = true) ∧
    (Mech.crl ∈ (verifyProg.run m (envOf o c) ne).consulted → docCrl m = true) := by
  cases ne
  · rw [empty_chains]; simp
  · rw [run_nonempty]; cases docOcsp m <;> cases docCrl m <;> simp

theorem disabled_accepts_untouched (o c : MechOut) (ne : Bool) :
    verifyProg.run .disabled (envOf o c) ne = { verdict := .accept, consulted := [] } := by
  cases ne <;> rfl

theorem ocsp_only_never_crl (o c : MechOut) (ne : Bool) :
    Mech.crl ∉ (verifyProg.run .ocspOnly (envOf o c) ne).consulted :=
  fun h => Bool.noConfusion ((consulted_enabled _ o c ne).2 h)

theorem crl_only_never_ocsp (o c : MechOut) (ne : Bool) :
    Mech.ocsp ∉ (verifyProg.run .crlOnly (envOf o c) ne).consulted :=
  fun h => Bool.noConfusion ((consulted_enabled _ o c ne).1 h)

theorem prefer_enforces_both (m : Mode) (h : m = .preferOCSP ∨ m = .preferCRL) :
    ocspEnabled m = true ∧ crlEnabled m = true := by
  rcases h with h | h <;> subst h <;> decide

theorem unset_is_prefer_ocsp : parseMode "" = some .preferOCSP := by decide

theorem parseMode_documented :
    parseMode "prefer_ocsp" = some .preferOCSP ∧ parseMode "prefer_crl" = some .preferCRL ∧
    parseMode "ocsp_only" = some .ocspOnly ∧ parseMode "crl_only" = some .crlOnly ∧
    parseMode "disabled" = some .disabled := by decide +kernel

/-- Unknown mode strings are rejected. -/
theorem parseMode_unknown_rejected (s : String)
    (h : s ∉ ["", "prefer_ocsp", "prefer_crl", "ocsp_only", "crl_only", "disabled"]) :
    parseMode s = none := by
  simp only [List.mem_cons, List.not_mem_nil, or_false, not_or] at h
  obtain ⟨h0, h1, h2, h3, h4, h5⟩ := h
  unfold parseMode
  have hl : s.length > 0 := Nat.pos_of_ne_zero fun hz => h0 (String.length_eq_zero_iff.1 hz)
  -- the catch-all equation of the `match` needs `s ≠` each literal; simp discharges these from `h1 … h5` in the context
  simp only [hl, ↓reduceIte]

example : (verifyProg.run .preferOCSP (envOf .good .revoked) true).verdict = .reject := by decide +kernel
example : (verifyProg.run .ocspOnly (envOf .good .revoked) true).verdict = .accept := by decide +kernel
example : (verifyProg.run .preferCRL (envOf .error .good) true).consulted = [.ocsp] := by decide +kernel

/-! Source fingerprints (`Crv/Proofs/Skeleton.lean`) re-exported into this namespace: a change to any of the fingerprinted Go
functions breaks an obligation of this property. -/
theorem mode_sources_as_transcribed : Crv.Generated.skeletonMode = Crv.Skeleton.expectedMode :=
  Crv.Skeleton.mode_sources_as_transcribed

end Crv.Props.C03
