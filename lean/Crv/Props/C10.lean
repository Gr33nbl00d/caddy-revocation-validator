import Crv.Props.C10Loader
import Crv.Proofs.Repo
import Crv.Proofs.Skeleton
/-!
C10 — CDP strictness, over every history of the repository model (serve / handshake / refresh tick /
provision / restart / restart with another signature mode / shutdown in any order and number) and every
enumeration order of the repository map.
"In force" = loaded, open entry whose store is a complete image of a document accepted under the signature
policy configured at its intake (`Accepted`, from the invariant `inv_run`; `accepted_at_intake`).
-/
namespace Crv.Props.C10
open Crv Crv.Repo Crv.Generated

/-- Strict: a certificate naming distribution points is only *not rejected by the CRL mechanism* while a CRL for that
distribution-point set is in force. Holds in every reachable state; `order` is any enumeration covering the entries. -/
theorem strict_accept_implies_in_force (cfg : Cfg) (ops : List Op) (hstrict : cfg.strict = true)
    (c : Cert) (loc : Loc) (hcdp : c.cdp = some loc) (order : List (Loc × Entry))
    (hcover : ∀ p ∈ (run cfg ops).entries, p ∈ order)
    (hacc : isRevoked (run cfg ops) order c = .notRevoked) :
    ∃ e d, lookup (run cfg ops).entries loc = some e ∧ e.loaded = true ∧ e.closed = false ∧
      e.store.doc = some d ∧ Accepted (run cfg ops) loc d := by
  rcases isRevoked_cases (run cfg ops) order c with h | ⟨h, hp⟩ <;> rw [h] at hacc
  · cases hacc
  have hp := hp loc hcdp ((strict_run cfg ops).trans hstrict)
  unfold presentAndLoaded at hp
  split at hp
  · rename_i e hl
    have hmem := lookup_mem hl
    have hw := walk_spec c order
    rw [hacc] at hw
    have he := (inv_run cfg ops).1 (loc, e) hmem
    cases hdoc : e.store.doc with
    | none => have := he.loadedDoc hp; rw [hdoc] at this; cases this
    | some d => exact ⟨e, d, hl, hp, (hw _ (hcover _ hmem)).1, hdoc, he.store.accepted d hdoc⟩
  · cases hp

/-- Strict, unsupported location (e.g. only ldap:// distribution points): denied. -/
theorem strict_unsupported_denied (s : State) (hstrict : s.cfg.strict = true) (c : Cert) (loc : Loc)
    (hcdp : c.cdp = some loc) (hu : s.unsupported.contains loc = true) (order : List (Loc × Entry)) :
    isRevoked s order c = .error := by
  unfold isRevoked
  simp only [hcdp, hstrict, Bool.true_or, Bool.true_and, hu, ↓reduceIte]

/-- Strict, before the first successful load / after failed loads / while a background fetch is pending: denied. -/
theorem strict_not_loaded_denied (s : State) (hstrict : s.cfg.strict = true) (c : Cert) (loc : Loc)
    (hcdp : c.cdp = some loc) (hn : presentAndLoaded s loc = false) (order : List (Loc × Entry)) :
    isRevoked s order c = .error := by
  unfold isRevoked
  simp only [hcdp, hstrict, Bool.true_or, Bool.true_and, hn, Bool.not_false, ↓reduceIte]
  split <;> rfl

/-- Lenient: the inability to obtain or use a distribution-point CRL never denies. The lookup can only fail when an
entry has been closed (shutdown), whatever the certificate's CDP, supported or not, loaded or not. -/
theorem lenient_never_denies (s : State) (hlen : s.cfg.strict = false) (c : Cert) (order : List (Loc × Entry))
    (hopen : ∀ p ∈ order, p.2.closed = false) : isRevoked s order c ≠ .error := by
  have hw : walk c order ≠ .error := by
    intro he
    have := walk_spec c order
    rw [he] at this
    obtain ⟨p, hp, hc⟩ := this
    rw [hopen p hp] at hc
    cases hc
  unfold isRevoked
  cases c.cdp with
  | none => exact hw
  | some loc =>
    simp only [hlen, gateOnlyWhenStrict, Bool.not_true, Bool.or_self, Bool.false_and, Bool.false_eq_true, ↓reduceIte]
    exact hw

/-- A failed first load (fetch, parse or signature) leaves the entry not loaded: with strict on the next handshake is denied. -/
theorem failed_load_stays_unloaded (s : State) (loc : Loc) (e : Entry) (cands : List Signer)
    (hfail : (loadCRL s loc e cands).2 = .err) : (loadCRL s loc e cands).1 = s :=
  loadCRL_err hfail

example : isRevoked (run { strict := true } [.serve 1 .garbage, .handshake ⟨7, 10, some 1⟩ [1]])
    (run { strict := true } [.serve 1 .garbage, .handshake ⟨7, 10, some 1⟩ [1]]).entries ⟨7, 10, some 1⟩ = .error := by decide +kernel
example : isRevoked (run { strict := false } [.markUnsupported 4]) [] ⟨7, 10, some 4⟩ = .notRevoked := by decide +kernel
-- strict, restart with another signature mode: a list taken in under `none` (unknown signer 9) is not loaded after the restart
-- under `verify`; the certificate naming this distribution point is denied, before the restart it was accepted.
def strictRestart : List Op :=
  [.serve 1 (.doc ⟨7, [13], 9, 1⟩), .handshake ⟨7, 10, some 1⟩ [1], .reconfigure .verify, .handshake ⟨7, 10, some 1⟩ [1]]
example : isRevoked (run { strict := true, sigMode := .none } (strictRestart.take 2))
    (run { strict := true, sigMode := .none } (strictRestart.take 2)).entries ⟨7, 10, some 1⟩ = .notRevoked := by decide +kernel
example : isRevoked (run { strict := true, sigMode := .none } strictRestart)
    (run { strict := true, sigMode := .none } strictRestart).entries ⟨7, 10, some 1⟩ = .error := by decide +kernel

/-! Source fingerprints (`Crv/Proofs/Skeleton.lean`) re-exported into this namespace: a change to any of the fingerprinted Go
functions breaks an obligation of this property. -/
theorem repo_sources_as_transcribed : Crv.Generated.skeletonRepo = Crv.Skeleton.expectedRepo :=
  Crv.Skeleton.repo_sources_as_transcribed

theorem loader_sources_as_transcribed : Crv.Generated.skeletonLoader = Crv.Skeleton.expectedLoader :=
  Crv.Skeleton.loader_sources_as_transcribed

end Crv.Props.C10
