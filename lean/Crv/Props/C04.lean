import Crv.Cand
import Crv.Proofs.Skeleton
import Crv.Props.C06
import Crv.Props.C16  -- no declaration here uses it: part (iii) of this property is C16's theorem, and the import puts it under C04's check
import Crv.Proofs.ReaderEnvelope
/-!
C04 — CRL authenticity under `verify`. Three parts:
(i)   the digest is over exactly the DER tbsCertList and the hash is the one the declared algorithm names
      (`Crv.Props.C06.digest_is_over_tbs`); an algorithm identifier outside the regenerated table stops the reader
      before anything is interpreted (`unsupported_algorithm_rejected`);
(ii)  decision logic, this file: the signature is accepted only under the key of an *entitled* certificate —
      a certificate above the end-entity of a presented chain or a configured trusted signer, matching the CRL's issuer
      name or authority key identifier, whose key usage (when present) permits CRL signing — for all chains, trusted
      lists and AKI forms; the candidate search interprets the regenerated rule chain (`candRules`) and never panics
      (`candidate_search_never_panics`), so "not accepted" is always a clean rejection (`verifyCRL_never_panics`);
(iii) policy: under `verify` only a verified CRL comes into force, in every history (`Crv.Props.C16.verify_in_force_was_verified`).
(iv)  the *unsigned envelope* of an accepted CRL is pinned down, for every byte string and every oracle (end of this file):
      the outer signatureAlgorithm is byte-identical to the signed inner `signature` field, the outer length is honest,
      the signature BIT STRING has no unused bits, and a long-form length byte is canonical.
"Any single bit" reduces to the primitive: a change in tbsCertList changes the digest input (i), a change in the
signature bits changes the input of `sigOK`, a change of the algorithm OID changes the table row or leaves the table.
-/
namespace Crv.Props.C04
open Crv Crv.Cand Crv.Generated

theorem facts : crlCandidatesSkipEndEntity = true ∧ crlSignKeyUsageChecked = true := by decide

theorem mem_enumFrom (n : Nat) (l : List CertA) (a : Avail) (h : a ∈ enumFrom n l) : ∃ p, a.origin = .chain p ∧ p ≥ n := by
  induction l generalizing n with
  | nil => cases h
  | cons c t ih =>
    simp only [enumFrom, List.mem_cons] at h
    rcases h with rfl | h
    · exact ⟨n, rfl, Nat.le_refl n⟩
    · obtain ⟨p, hp, hge⟩ := ih (n + 1) h
      exact ⟨p, hp, by omega⟩

/-- Whatever is available as a signer candidate is a configured trusted signer or sits above the end-entity of a presented chain. -/
theorem available_origin (verified : List (List CertA)) (trusted : List CertA) (a : Avail)
    (h : a ∈ available verified trusted) : a.origin = .trusted ∨ ∃ p, a.origin = .chain p ∧ p ≥ 1 := by
  unfold available at h
  simp only [crlCandidatesSkipEndEntity, ↓reduceIte, List.mem_append, List.mem_flatten, List.mem_map] at h
  rcases h with ⟨l, ⟨ch, _, rfl⟩, hal⟩ | ⟨c, _, rfl⟩
  · right
    split at hal
    · exact mem_enumFrom 1 _ a hal
    · cases hal
  · left; rfl

/-- The test `FindCertificateIssuerCandidates` applies to each available certificate under the regenerated rule chain
(`candRules`, `candNoRuleIsError`): name and key algorithm without an AKI; issuer+serial when the AKI has a serial; else the
key identifier; `none`: an AKI with neither, which is an error. -/
def selector (crlIssuer : Nat) (aki : Option AKI) (alg : KeyAlg) : Option (Avail → Bool) :=
  match aki with
  | none => some fun x => x.cert.subject == crlIssuer && x.cert.keyAlg == alg
  | some a =>
    match a.certSerial, a.keyId with
    | some s, _ => some fun x => x.cert.serial == s && issuerMatches a x
    | none, some k => some fun x => x.cert.ski == some k
    | none, none => none

theorem findCandidates_eq (crlIssuer : Nat) (aki : Option AKI) (alg : KeyAlg) (av : List Avail) :
    findCandidates crlIssuer aki alg av =
      match selector crlIssuer aki alg with
      | some p => .ok (av.filter p)
      | none => .err := by
  cases aki with
  | none => rfl
  | some a =>
    cases hs : a.certSerial <;> cases hk : a.keyId <;>
      simp [findCandidates, findCandidatesWith, candRules, candNoRuleIsError, interpRules, runRule, fieldPresent,
        serialIssuerRule, keyIdRule, selector, hs, hk]

theorem issuerMatches_iff (a : AKI) (x : Avail) : issuerMatches a x = true ↔ a.certIssuer = some x.cert.issuerName := by
  fun_cases issuerMatches a x
  case case1 n h => rw [h, beq_iff_eq, Option.some.injEq, eq_comm]
  case case2 h => rw [h]; exact ⟨nofun, nofun⟩

theorem kuAllows_iff (c : CertA) : kuAllows c = true ↔ c.keyUsage = none ∨ c.keyUsage = some true := by
  fun_cases kuAllows c
  case case1 h => rw [h]; exact ⟨fun _ => Or.inl rfl, fun _ => rfl⟩
  case case2 b h => rw [h, Option.some.injEq]; exact ⟨Or.inr, fun h => h.resolve_left nofun⟩

theorem selector_sound {crlIssuer : Nat} {aki : Option AKI} {alg : KeyAlg} {p : Avail → Bool}
    (h : selector crlIssuer aki alg = some p) (x : Avail) (hx : p x = true) : matchesCRL crlIssuer aki x.cert := by
  revert h
  fun_cases selector crlIssuer aki alg
  all_goals intro h; cases h
  case case1 => exact Or.inl (beq_iff_eq.mp (Bool.and_eq_true_iff.mp hx).1)
  case case2 a s hs =>
    have ⟨h1, h2⟩ := Bool.and_eq_true_iff.mp hx
    exact Or.inr ⟨a, rfl, Or.inr ⟨s, _, hs, (issuerMatches_iff a x).mp h2, beq_iff_eq.mp h1, rfl⟩⟩
  case case3 a k hk _ => exact Or.inr ⟨a, rfl, Or.inl ⟨k, hk, beq_iff_eq.mp hx⟩⟩

/-- **The candidate search never panics**, whatever the CRL issuer, AKI form, key algorithm and available certificates.
This rests on the regenerated rule chain: the issuer+serial rule — whose loop compares every available certificate's serial
with `AuthorityCertSerialNumber` — is guarded by "serial present". With a guard that does not require the serial the search
panics (`unguarded_serial_rule_panics`). -/
theorem candidate_search_never_panics (crlIssuer : Nat) (aki : Option AKI) (alg : KeyAlg) (av : List Avail) :
    findCandidates crlIssuer aki alg av ≠ .panic := by
  rw [findCandidates_eq]
  cases selector crlIssuer aki alg with
  | none => exact CandRes.noConfusion
  | some p => exact CandRes.noConfusion

/-- Sensitivity of `candidate_search_never_panics` to the rule guards: were the issuer+serial rule guarded by the issuer
instead of the serial, an AKI with an issuer but no serial would panic as soon as one certificate is available
(`SerialNumber.Cmp(nil)` on the first candidate). -/
theorem unguarded_serial_rule_panics (crlIssuer : Nat) (kid : Option Nat) (n : Nat) (alg : KeyAlg) (av : List Avail)
    (hav : av ≠ []) :
    findCandidatesWith [("serial+issuer", ["issuer"]), ("keyid", ["keyid"])] true crlIssuer (some ⟨kid, none, some n⟩) alg av
      = .panic := by
  cases av with
  | nil => exact absurd rfl hav
  | cons x t => simp [findCandidatesWith, interpRules, runRule, fieldPresent, serialIssuerRule]

/-- With nothing available the unguarded rule's loop body never runs: no panic, no candidates. -/
theorem unguarded_serial_rule_no_certificate (crlIssuer : Nat) (kid : Option Nat) (n : Nat) (alg : KeyAlg) :
    findCandidatesWith [("serial+issuer", ["issuer"]), ("keyid", ["keyid"])] true crlIssuer (some ⟨kid, none, some n⟩) alg []
      = .ok [] := by
  simp [findCandidatesWith, interpRules, runRule, fieldPresent, serialIssuerRule]

/-- The rule chain as regenerated from `FindCertificateIssuerCandidates`: issuer+serial guarded by the serial, then key
identifier guarded by the key identifier, and no rule is an error. -/
theorem cand_rules_canonical :
    candRules = [("serial+issuer", ["serial"]), ("keyid", ["keyid"])] ∧ candNoRuleIsError = true := ⟨rfl, rfl⟩

/-- An AKI that carries neither a serial nor a key identifier is an error, whatever its issuer field is. -/
theorem aki_without_serial_and_keyid_is_error (crlIssuer : Nat) (a : AKI) (alg : KeyAlg) (av : List Avail)
    (hs : a.certSerial = none) (hk : a.keyId = none) :
    findCandidates crlIssuer (some a) alg av = .err := by
  rw [findCandidates_eq]
  simp only [selector, hs, hk]

/-- The issuer+serial rule comes first: an AKI with a serial selects exactly the certificates with that serial whose issuer
name is the AKI's (present) issuer, whether or not the AKI also carries a key identifier. -/
theorem serial_rule_first (crlIssuer : Nat) (a : AKI) (s : Int) (alg : KeyAlg) (av : List Avail)
    (hs : a.certSerial = some s) :
    findCandidates crlIssuer (some a) alg av =
      .ok (av.filter fun x => x.cert.serial == s &&
        (match a.certIssuer with | some n => x.cert.issuerName == n | none => false)) := by
  rw [findCandidates_eq]
  simp only [selector, hs]
  rfl

/-- The candidate loop of `verifyCRLSignature`. -/
theorem firstVerifying_eq (sigOK : Nat → Bool) (l : List Avail) :
    firstVerifying sigOK l = l.find? fun a => kuAllows a.cert && sigOK a.cert.key := by
  induction l with
  | nil => rfl
  | cons x t ih =>
    unfold firstVerifying
    rw [List.find?_cons, ih]
    cases kuAllows x.cert <;> cases sigOK x.cert.key <;> rfl

/-- **Decision logic:** the CRL signature is accepted only under the key of an entitled certificate, and that key does verify it.
All chains, all trusted lists, all AKI forms, every behaviour of the signature primitive. -/
theorem accepted_signer_entitled (sigOK : Nat → Bool) (crlIssuer : Nat) (aki : Option AKI) (alg : KeyAlg)
    (verified : List (List CertA)) (trusted : List CertA) (a : Avail)
    (h : verifyCRL sigOK crlIssuer aki alg verified trusted = .accepted a) :
    Entitled crlIssuer aki a ∧ sigOK a.cert.key = true := by
  revert h
  fun_cases verifyCRL sigOK crlIssuer aki alg verified trusted
  all_goals intro h; cases h
  case case3 l hc hf =>
    rw [findCandidates_eq] at hc
    split at hc
    next p hsel =>
      cases hc
      rw [firstVerifying_eq] at hf
      obtain ⟨hav, hp⟩ := List.mem_filter.mp (List.mem_of_find?_eq_some hf)
      have hfound := List.find?_some hf
      obtain ⟨hku, hsig⟩ := Bool.and_eq_true_iff.mp hfound
      exact ⟨⟨available_origin verified trusted a hav, selector_sound hsel a hp, (kuAllows_iff _).mp hku⟩, hsig⟩
    next => cases hc

/-- Signature verification of a CRL never panics in the candidate search (`candidate_search_never_panics`). -/
theorem verifyCRL_never_panics (sigOK : Nat → Bool) (crlIssuer : Nat) (aki : Option AKI) (alg : KeyAlg)
    (verified : List (List CertA)) (trusted : List CertA) :
    verifyCRL sigOK crlIssuer aki alg verified trusted ≠ .panic := by
  fun_cases verifyCRL sigOK crlIssuer aki alg verified trusted
  case case2 hc => exact absurd hc (candidate_search_never_panics crlIssuer aki alg _)
  all_goals nofun

/-- Signing with the client certificate's own key (or any key whose only certificate sits at position 0) is never accepted. -/
theorem end_entity_key_never_accepted (sigOK : Nat → Bool) (crlIssuer : Nat) (aki : Option AKI) (alg : KeyAlg)
    (verified : List (List CertA)) (trusted : List CertA) (a : Avail)
    (h : verifyCRL sigOK crlIssuer aki alg verified trusted = .accepted a) : a.origin ≠ .chain 0 := by
  have := (accepted_signer_entitled sigOK crlIssuer aki alg verified trusted a h).1.1
  intro h0
  rcases this with ht | ⟨p, hp, hge⟩
  · rw [h0] at ht; cases ht
  · rw [h0] at hp; cases hp; omega

/-- If no available key verifies the signature (unrelated key, tampered content or signature), nothing is accepted. -/
theorem nothing_verifies_nothing_accepted (crlIssuer : Nat) (aki : Option AKI) (alg : KeyAlg)
    (verified : List (List CertA)) (trusted : List CertA) :
    verifyCRL (fun _ => false) crlIssuer aki alg verified trusted = .rejected := by
  cases h : verifyCRL (fun _ => false) crlIssuer aki alg verified trusted with
  | rejected => rfl
  | panic => exact absurd h (verifyCRL_never_panics _ crlIssuer aki alg verified trusted)
  | accepted a => have := (accepted_signer_entitled _ crlIssuer aki alg verified trusted a h).2; cases this

/-- An algorithm identifier outside the table (RSA-PSS, Ed25519, …) stops the reader before tbsCertList is interpreted. -/
theorem unsupported_algorithm_rejected (oid : List Nat) (h : lookupHash oid = none) (r : Rd) :
    ∃ r', lookupHashM oid r = .err .alg r' := by
  unfold lookupHashM
  simp only [h]
  exact ⟨r, rfl⟩

theorem pss_and_ed25519_not_in_table :
    lookupHash [1, 2, 840, 113549, 1, 1, 10] = none ∧ lookupHash [1, 3, 101, 112] = none := by decide

theorem supported_algorithms :
    (hashTable.map (·.1)) = [[1, 2, 840, 10045, 4, 1], [1, 2, 840, 10045, 4, 3, 1], [1, 2, 840, 10045, 4, 3, 2],
      [1, 2, 840, 10045, 4, 3, 3], [1, 2, 840, 10045, 4, 3, 4], [1, 2, 840, 113549, 1, 1, 11], [1, 2, 840, 113549, 1, 1, 12],
      [1, 2, 840, 113549, 1, 1, 13], [1, 2, 840, 113549, 1, 1, 14], [1, 2, 840, 113549, 1, 1, 5]] := by decide

/-- The two passes of an accepted run, inverted once: the first pass's query `qo`, whose frame and OID the second pass
(from the start of the file to `r2`) was given. -/
theorem accepted_inv {O : Oracle} {file : Bytes} {res : ReadResult} (hok : (readCRL O file).outcome = .ok res) :
    ∃ r2 qo, BodyEnvelope file (frameAt file qo) res.algOid { rest := file } r2 res ∧ qo.kind = .alg ∧
      O.algOid (frameAt file qo) = some res.algOid ∧ (readCRL O file).finalPos = r2.pos ∧
      (readCRL O file).queries = qo :: r2.queries := by
  obtain ⟨oid, f, r1, r2, hp, hb, hq, hfin⟩ := readCRL_ok_inv hok
  obtain ⟨qo, hq1, hk1, rfl, ho⟩ := prescan_ok (sync_init file) rfl hp
  have env := readBody_envelope (sync_init file) hb
  cases env.algOid
  exact ⟨r2, qo, env, hk1, ho, hfin, by rw [hq, hq1]; rfl⟩

/-- **Outer algorithm = inner algorithm.** An accepted run asks the AlgorithmIdentifier decoder exactly twice — first about
the outer `signatureAlgorithm` (pre-scan, `qo`), then about the `signature` field inside tbsCertList (`qi`) — and the two
frames (the file bytes `frameAt file q = (file.drop q.off).take q.len` the queries refer to) are byte-identical. The OID
that selects the hash is the decoding of that frame. -/
theorem accepted_outer_alg_is_inner (O : Oracle) (file : Bytes) (res : ReadResult)
    (hok : (readCRL O file).outcome = .ok res) :
    ∃ qo qi rest, (readCRL O file).queries = qo :: qi :: rest ∧ qo.kind = .alg ∧ qi.kind = .alg ∧
      (∀ q ∈ rest, q.kind ≠ .alg) ∧ frameAt file qi = frameAt file qo ∧
      O.algOid (frameAt file qo) = some res.algOid ∧ lookupHash res.algOid = some res.hashAlg := by
  obtain ⟨r2, qo, env, hk1, ho, _, hq⟩ := accepted_inv hok
  obtain ⟨qi, l, hq2, hk2, hf2, hl, _, _⟩ := env.queries
  exact ⟨qo, qi, l, by rw [hq, hq2]; rfl, hk1, hk2, hl, hf2, ho, env.hashOk⟩

/-- **Honest outer length.** The file starts with a SEQUENCE header `tl`, and an accepted run ends exactly where that
header says the CertificateList ends: `finalPos = 1 + lenSize + len`; all of it lies inside the file. -/
theorem accepted_outer_length_honest (O : Oracle) (file : Bytes) (res : ReadResult)
    (hok : (readCRL O file).outcome = .ok res) :
    ∃ tl r, readTL { rest := file } = .ok tl r ∧ tl.tag = 0x30 ∧
      (readCRL O file).finalPos = 1 + tl.lenSize + tl.len ∧ (readCRL O file).finalPos = tl.tlvLen ∧
      (readCRL O file).finalPos ≤ file.length := by
  obtain ⟨r2, qo, env, _, _, hfin, _⟩ := accepted_inv hok
  obtain ⟨tl, r, htl, htag, hpos, _⟩ := env.header
  rw [show ({ rest := file } : Rd).pos = 0 from rfl, Nat.zero_add] at hpos
  rw [hfin]
  exact ⟨tl, r, htl, htag, hpos, hpos, env.inFile⟩

/-- **Whole-octet signature.** The signature BIT STRING of an accepted CRL has no unused bits. -/
theorem accepted_signature_whole_octets (O : Oracle) (file : Bytes) (res : ReadResult)
    (hok : (readCRL O file).outcome = .ok res) :
    res.sig.bitLen % 8 = 0 ∧ res.sig.bitLen = 8 * res.sig.bytes.length :=
  (readCRL_post hok).2

/-- **Canonical long form** (`ReadLength`). If a length is read successfully and its first byte `b` has bit `0x80` set,
then none of the bits `0x70` is set and the count `b & 0x0f` is not zero — `0x80` (indefinite) and `0x90 … 0xff` never
decode — and the size of the length field is the count plus one. -/
theorem long_form_first_byte_canonical (r r' : Rd) (l s : Nat) (b : UInt8) (t : Bytes)
    (hr : r.rest = b :: t) (hb : b &&& 0x80 ≠ 0) (h : readLen r = .ok (l, s) r') :
    b &&& 0x70 = 0 ∧ b &&& 0x0f ≠ 0 ∧ s = (b &&& 0x0f).toNat + 1 :=
  (SafeFor.ok (safe_readLen (B := allocBound) (by decide)) h).2.2 b t hr hb

/-- The same for `PeekLength` at offset `off`. -/
theorem long_form_first_byte_canonical_peek (off : Nat) (r r' : Rd) (l s : Nat) (b : UInt8) (t : Bytes)
    (hr : r.rest.drop off = b :: t) (hb : b &&& 0x80 ≠ 0) (h : peekLen off r = .ok (l, s) r') :
    b &&& 0x70 = 0 ∧ b &&& 0x0f ≠ 0 ∧ s = (b &&& 0x0f).toNat + 1 :=
  (SafeFor.ok (safe_peekLen (B := allocBound) off (by decide)) h).2.2 b t hr hb

theorem and15_pos {b : UInt8} (h : b &&& 0x0f ≠ 0) : 1 ≤ (b &&& 0x0f).toNat := by
  have : (b &&& 0x0f).toNat ≠ 0 := by
    intro h0
    apply h
    exact UInt8.toNat_inj.mp h0
  omega

theorem long_form_toNat (b : UInt8) (h80 : b &&& 0x80 ≠ 0) (h70 : b &&& 0x70 = 0) :
    b.toNat = 0x80 + (b &&& 0x0f).toNat := by
  have e80 : b.toNat &&& 128 ≠ 0 := fun h => h80 (UInt8.toNat_inj.mp ((UInt8.toNat_and _ _).trans h))
  have e70 : b.toNat &&& 112 = 0 := (UInt8.toNat_and _ _).symm.trans (congrArg UInt8.toNat h70)
  -- the masks `0x80` and `0x70` seen from the high nibble `b / 16`: it is 8
  have q80 : b.toNat / 16 &&& 8 ≠ 0 := by
    intro h
    have hd : (b.toNat &&& 128) / 2 ^ 4 = 0 := by rw [Nat.and_div_two_pow]; exact h
    have hm : (b.toNat &&& 128) % 2 ^ 4 = 0 := by rw [Nat.and_mod_two_pow]; exact Nat.and_zero _
    exact e80 (by rw [← Nat.div_add_mod (b.toNat &&& 128) (2 ^ 4), hd, hm])
  have q70 : b.toNat / 16 &&& 7 = 0 := by
    have := congrArg (· / 2 ^ 4) e70
    simpa only [Nat.and_div_two_pow] using this
  have nibble : ∀ q, q < 16 → q &&& 8 ≠ 0 → q &&& 7 = 0 → q = 8 := by decide
  have hq := nibble (b.toNat / 16) (Nat.div_lt_of_lt_mul (UInt8.toNat_lt b)) q80 q70
  have hl : (b &&& 0x0f).toNat = b.toNat % 2 ^ 4 := by
    rw [UInt8.toNat_and]; exact Nat.and_two_pow_sub_one_eq_mod _ 4
  rw [hl]
  exact (Nat.div_add_mod b.toNat 16).symm.trans (by rw [hq])

theorem long_form_range {b : UInt8} {s : Nat} (hb : b &&& 0x80 ≠ 0)
    (h : b &&& 0x70 = 0 ∧ b &&& 0x0f ≠ 0 ∧ s = (b &&& 0x0f).toNat + 1) :
    1 ≤ s - 1 ∧ s - 1 ≤ 15 ∧ 0x81 ≤ b.toNat ∧ b.toNat ≤ 0x8f := by
  obtain ⟨h70, h0f, hs⟩ := h
  have hpos := and15_pos h0f
  have hle : (b &&& 0x0f).toNat ≤ 15 := mask_le b
  rw [hs, Nat.add_sub_cancel, long_form_toNat b hb h70]
  exact ⟨hpos, hle, Nat.add_le_add_left hpos _, Nat.add_le_add_left hle _⟩

/-- Corollary: a long form that decodes has between 1 and 15 length bytes, and its first byte is one of `0x81 … 0x8f`. -/
theorem long_form_length_bytes (r r' : Rd) (l s : Nat) (b : UInt8) (t : Bytes)
    (hr : r.rest = b :: t) (hb : b &&& 0x80 ≠ 0) (h : readLen r = .ok (l, s) r') :
    1 ≤ s - 1 ∧ s - 1 ≤ 15 ∧ 0x81 ≤ b.toNat ∧ b.toNat ≤ 0x8f :=
  long_form_range hb (long_form_first_byte_canonical r r' l s b t hr hb h)

theorem long_form_length_bytes_peek (off : Nat) (r r' : Rd) (l s : Nat) (b : UInt8) (t : Bytes)
    (hr : r.rest.drop off = b :: t) (hb : b &&& 0x80 ≠ 0) (h : peekLen off r = .ok (l, s) r') :
    1 ≤ s - 1 ∧ s - 1 ≤ 15 ∧ 0x81 ≤ b.toNat ∧ b.toNat ≤ 0x8f :=
  long_form_range hb (long_form_first_byte_canonical_peek off r r' l s b t hr hb h)

theorem slice_of_slice (file : Bytes) (a L off n : Nat) (h1 : a ≤ off) (h2 : off + n ≤ a + L) :
    (((file.drop a).take L).drop (off - a)).take n = (file.drop off).take n := by
  rw [List.drop_take, List.take_take, List.drop_drop, Nat.add_sub_cancel' h1]
  refine congrArg (List.take · _) (Nat.min_eq_left (Nat.le_sub_of_add_le (Nat.le_of_add_le_add_left (a := a) ?_)))
  rw [Nat.add_left_comm, Nat.add_sub_cancel' h1, Nat.add_comm]; exact h2

/-- **The envelope is pinned** (one accepted file). Everything outside the hashed region is determined by the header and
the hashed (hence signed) bytes: the file starts with a SEQUENCE header `tl`; the hashed region is the file slice that
starts right after that header; the run ends exactly at the end `tl` declares, inside the file; the outer
signatureAlgorithm frame (`qo`) is a copy of bytes *inside the hashed region* (the slice the inner query `qi` refers to);
the hash is the one this frame's OID names; and the signature has no unused bits. What is left free is only the choice
among (non-minimal) length encodings of the outer and BIT STRING headers. -/
theorem envelope_bits_pinned (O : Oracle) (file : Bytes) (res : ReadResult)
    (hok : (readCRL O file).outcome = .ok res) :
    ∃ tl r qo qi rest,
      readTL { rest := file } = .ok tl r ∧ tl.tag = 0x30 ∧
      (readCRL O file).finalPos = tl.tlvLen ∧ tl.tlvLen ≤ file.length ∧
      res.hashFrom = 1 + tl.lenSize ∧
      res.hashRegion = (file.drop res.hashFrom).take res.hashRegion.length ∧
      res.hashFrom + res.hashRegion.length ≤ tl.tlvLen ∧
      (readCRL O file).queries = qo :: qi :: rest ∧ qo.kind = .alg ∧ qi.kind = .alg ∧ (∀ q ∈ rest, q.kind ≠ .alg) ∧
      res.hashFrom ≤ qi.off ∧ qi.off + qi.len ≤ res.hashFrom + res.hashRegion.length ∧
      frameAt file qo = (res.hashRegion.drop (qi.off - res.hashFrom)).take qi.len ∧
      O.algOid (frameAt file qo) = some res.algOid ∧ lookupHash res.algOid = some res.hashAlg ∧
      res.sig.bitLen = 8 * res.sig.bytes.length := by
  obtain ⟨r2, qo, env, hk1, ho, hfin, hq⟩ := accepted_inv hok
  obtain ⟨qi, l, hq2, hk2, hf2, hl, hlo, hhi⟩ := env.queries
  obtain ⟨tl, r, htl, htag, hpos, hfrom⟩ := env.header
  rw [show ({ rest := file } : Rd).pos = 0 from rfl, Nat.zero_add] at hpos hfrom
  have hend : r2.pos = tl.tlvLen := hpos
  refine ⟨tl, r, qo, qi, l, htl, htag, hfin.trans hend, hend ▸ env.inFile, hfrom, env.region, hend ▸ env.regionEnd,
    by rw [hq, hq2]; rfl, hk1, hk2, hl, hlo, hhi, ?_, ho, env.hashOk, (accepted_signature_whole_octets O file res hok).2⟩
  rw [env.region, slice_of_slice file _ _ _ _ hlo hhi]
  exact hf2.symm

theorem bitStr_eq_of_whole {s t : BitStr} (hs : s.bitLen = 8 * s.bytes.length) (ht : t.bitLen = 8 * t.bytes.length)
    (hb : s.bytes = t.bytes) : s = t := by
  cases s; cases t
  simp only at hs ht hb
  rw [hs, ht, hb]

/-- Two accepted files whose hashed regions carry the same inner AlgorithmIdentifier slice select the same hash, and their
outer signatureAlgorithm frames are identical; with equal signature bytes the signature values are equal as BIT STRINGs. -/
theorem same_signed_alg_same_envelope (O : Oracle) (file₁ file₂ : Bytes) (res₁ res₂ : ReadResult)
    (h₁ : (readCRL O file₁).outcome = .ok res₁) (h₂ : (readCRL O file₂).outcome = .ok res₂) :
    ∃ qo₁ qi₁ rest₁ qo₂ qi₂ rest₂,
      (readCRL O file₁).queries = qo₁ :: qi₁ :: rest₁ ∧ (readCRL O file₂).queries = qo₂ :: qi₂ :: rest₂ ∧
      ((res₁.hashRegion.drop (qi₁.off - res₁.hashFrom)).take qi₁.len =
          (res₂.hashRegion.drop (qi₂.off - res₂.hashFrom)).take qi₂.len →
        frameAt file₁ qo₁ = frameAt file₂ qo₂ ∧ res₁.algOid = res₂.algOid ∧ res₁.hashAlg = res₂.hashAlg ∧
        (res₁.sig.bytes = res₂.sig.bytes → res₁.sig = res₂.sig)) := by
  obtain ⟨_, _, qo₁, qi₁, rest₁, _, _, _, _, _, _, _, hq₁, _, _, _, _, _, hf₁, ho₁, hh₁, hs₁⟩ :=
    envelope_bits_pinned O file₁ res₁ h₁
  obtain ⟨_, _, qo₂, qi₂, rest₂, _, _, _, _, _, _, _, hq₂, _, _, _, _, _, hf₂, ho₂, hh₂, hs₂⟩ :=
    envelope_bits_pinned O file₂ res₂ h₂
  refine ⟨qo₁, qi₁, rest₁, qo₂, qi₂, rest₂, hq₁, hq₂, fun heq => ?_⟩
  -- the outer frames are these slices; the OID is a function of the frame, the hash a function of the OID
  have hfr : frameAt file₁ qo₁ = frameAt file₂ qo₂ := by rw [hf₁, hf₂, heq]
  have hoid : res₁.algOid = res₂.algOid := Option.some.inj (ho₁.symm.trans ((congrArg O.algOid hfr).trans ho₂))
  exact ⟨hfr, hoid, Option.some.inj (hh₁.symm.trans ((congrArg lookupHash hoid).trans hh₂)), bitStr_eq_of_whole hs₁ hs₂⟩

-- Non-vacuity: the concrete accepted document of C06 (`exDoc`, v2, two entries, extensions) instantiates every statement.
theorem exDoc_accepted : ∃ res, (readCRL C06.exOracle (enc C06.exDoc)).outcome = .ok res :=
  let ⟨_, _, res, hres, _⟩ := C06.read_enc C06.exOracle C06.exDoc _ _ _ _ C06.exDoc_wf
  ⟨res, hres⟩

example : ∃ qo qi rest, (readCRL C06.exOracle (enc C06.exDoc)).queries = qo :: qi :: rest ∧ qo.kind = .alg ∧ qi.kind = .alg ∧
    frameAt (enc C06.exDoc) qi = frameAt (enc C06.exDoc) qo := by
  obtain ⟨res, hres⟩ := exDoc_accepted
  obtain ⟨qo, qi, rest, h1, h2, h3, _, h5, _⟩ := accepted_outer_alg_is_inner _ _ res hres
  exact ⟨qo, qi, rest, h1, h2, h3, h5⟩

example : (readCRL C06.exOracle (enc C06.exDoc)).finalPos = (enc C06.exDoc).length ∧
    ∃ tl r, readTL { rest := enc C06.exDoc } = .ok tl r ∧ (readCRL C06.exOracle (enc C06.exDoc)).finalPos = tl.tlvLen := by
  obtain ⟨res, hres⟩ := exDoc_accepted
  obtain ⟨tl, r, h1, _, _, h4, _⟩ := accepted_outer_length_honest _ _ res hres
  exact ⟨(C06.read_enc C06.exOracle C06.exDoc _ _ _ _ C06.exDoc_wf).2.1, tl, r, h1, h4⟩

example : ∃ res, (readCRL C06.exOracle (enc C06.exDoc)).outcome = .ok res ∧ res.sig.bitLen = 24 ∧ res.sig.bitLen % 8 = 0 := by
  obtain ⟨_, _, res, hres, heq⟩ := C06.read_enc C06.exOracle C06.exDoc _ _ _ _ C06.exDoc_wf
  refine ⟨res, hres, ?_, (accepted_signature_whole_octets _ _ res hres).1⟩
  rw [heq]; rfl

-- `0x82 0x01 0x00` decodes (256, a length field of three bytes); `0x80` (indefinite), `0x90 …`, `0xff …` are refused as `lenForm`.
example : (match readLen { rest := [0x82, 1, 0] } with | .ok (256, 3) _ => true | _ => false) = true := by decide +kernel
example : (match readLen { rest := [0x80, 1, 0] } with | .err .lenForm _ => true | _ => false) = true := by decide +kernel
example : (match readLen { rest := [0x90, 1, 0] } with | .err .lenForm _ => true | _ => false) = true := by decide +kernel
example : (match readLen { rest := [0xff, 1, 0] } with | .err .lenForm _ => true | _ => false) = true := by decide +kernel
example : (match peekLen 1 { rest := [0x30, 0x91, 1, 0] } with | .err .lenForm _ => true | _ => false) = true := by decide +kernel

-- Non-vacuity: issuer CA (key 1) above the end-entity (key 5): a CRL signed by key 5 is refused, by key 1 accepted.
def leaf : CertA := ⟨5, 100, 7, 42, some 9, .ecdsa, none⟩
def ca : CertA := ⟨1, 7, 7, 1, some 9, .ecdsa, some true⟩
example : verifyCRL (fun k => k == 5) 7 (some ⟨some 9, none, none⟩) .ecdsa [[leaf, ca]] [] = .rejected := by decide +kernel
example : verifyCRL (fun k => k == 1) 7 (some ⟨some 9, none, none⟩) .ecdsa [[leaf, ca]] [] = .accepted ⟨ca, .chain 1⟩ := by decide +kernel
-- An AKI with only an issuer: the search ends in its error (not a panic), the CRL is rejected; serial+issuer selects the CA.
example : findCandidates 7 (some ⟨none, none, some 7⟩) .ecdsa (available [[leaf, ca]] []) = .err := by decide +kernel
example : verifyCRL (fun k => k == 1) 7 (some ⟨none, none, some 7⟩) .ecdsa [[leaf, ca]] [] = .rejected := by decide +kernel
example : verifyCRL (fun k => k == 1) 7 (some ⟨some 3, some 1, some 7⟩) .ecdsa [[leaf, ca]] [] = .accepted ⟨ca, .chain 1⟩ := by decide +kernel

/-! Source fingerprints (`Crv/Proofs/Skeleton.lean`) re-exported into this namespace: a change to any of the fingerprinted Go
functions breaks an obligation of this property. -/
theorem reader_sources_as_transcribed : Crv.Generated.skeletonReader = Crv.Skeleton.expectedReader :=
  Crv.Skeleton.reader_sources_as_transcribed

theorem cand_sources_as_transcribed : Crv.Generated.skeletonCand = Crv.Skeleton.expectedCand :=
  Crv.Skeleton.cand_sources_as_transcribed

end Crv.Props.C04
