import Crv.Proofs.Repo
import Crv.Proofs.Skeleton
import Crv.Props.C11
/-!
C08 — refresh is all-or-nothing and a failed refresh keeps the previous CRL in force.

Sequential part: over the repository model (`updateCrlEntry` stages into a temporary store and swaps after the
signature step — checked by the translator).
Concurrent part: a small-step model of one entry shared by any number of lookups and one refresher. The store
swap is *not* atomic in itself (memory backend: the map is replaced by an empty one and refilled; disk backend:
close, rename aside, rename in, reopen) — what makes it atomic for observers is the lock discipline, which the
translator regenerates as `lookupHoldsReadLock` / `swapHoldsWriteLock`. The theorem quantifies over every schedule.
-/
namespace Crv.Props.C08
open Crv Crv.Repo Crv.Generated

/-- A refresh that fails while fetching, parsing or verifying (or because the staging store cannot be filled — the
staged store is simply dropped) leaves store and loaded flag of the entry as they were. -/
theorem failed_refresh_keeps (s : State) (loc : Loc) (e : Entry) (nc : Option (List Signer))
    (hcur : lookup s.entries loc = some e) (hfail : (updateCrlEntry s loc e nc).2 = .err) :
    ∀ e', lookup (updateCrlEntry s loc e nc).1.entries loc = some e' → e'.store = e.store ∧ e'.loaded = e.loaded :=
  Crv.Props.C11.rejected_refresh_keeps_store s loc e nc hcur hfail

theorem successful_refresh_installs (s : State) (loc : Loc) (e : Entry) (nc : Option (List Signer))
    (hok : (updateCrlEntry s loc e nc).2 = .ok) :
    ∃ d, servedAt s loc = .doc d ∧
      ∀ e', lookup (updateCrlEntry s loc e nc).1.entries loc = some e' → e'.store.doc = some d :=
  Crv.Props.C11.refresh_replaces s loc e nc hok

/-- The lookup answer for a certificate only depends on the store content and flags of the entries. -/
theorem verdict_from_old_after_failure (s : State) (loc : Loc) (e : Entry) (nc : Option (List Signer)) (c : Cert)
    (hcur : lookup s.entries loc = some e) (hfail : (updateCrlEntry s loc e nc).2 = .err)
    (e' : Entry) (he' : lookup (updateCrlEntry s loc e nc).1.entries loc = some e') :
    listed e'.store c = listed e.store c := by
  rw [(failed_refresh_keeps s loc e nc hcur hfail e' he').1]

inductive Content | old | empty | new
  deriving DecidableEq, Repr

/-- Shared state of one repository entry while a refresh is under way. -/
structure Sh where
  content : Content := .old      -- what a lookup reading the store at this instant would see
  writerHolds : Bool := false    -- entry write lock held by the refresher
  inside : Nat := 0              -- lookups currently between lock acquisition and release (read-lock holders)
  wpc : Nat := 0                 -- refresher: 0 before the swap, 1 lock taken, 2 store cleared, 3 store refilled, 4 lock released
  answers : List Content := []   -- ghost: what each completed lookup read, in completion order
  deriving Repr

inductive Ev
  | writer     -- the refresher takes its next micro-step (blocked steps leave the state unchanged)
  | enter      -- some lookup starts: takes the read lock if the discipline says so
  | read       -- some lookup that is inside reads the store, answers and leaves
  deriving DecidableEq, Repr

def stepW (s : Sh) : Sh :=
  match s.wpc with
  | 0 => if swapHoldsWriteLock then (if s.inside = 0 ∧ s.writerHolds = false then { s with writerHolds := true, wpc := 1 } else s)
         else { s with wpc := 1 }
  | 1 => { s with content := .empty, wpc := 2 }
  | 2 => { s with content := .new, wpc := 3 }
  | 3 => { s with writerHolds := false, wpc := 4 }
  | _ => s

def step (s : Sh) : Ev → Sh
  | .writer => stepW s
  | .enter => if lookupHoldsReadLock && s.writerHolds then s else { s with inside := s.inside + 1 }
  | .read => if s.inside = 0 then s else { s with inside := s.inside - 1, answers := s.answers ++ [s.content] }

def runSched (sched : List Ev) : Sh := sched.foldl step {}

/-- Answers seen so far: only complete lists, old ones first. -/
def Mono : List Content → Prop
  | [] => True
  | a :: t => (a = .old ∨ a = .new) ∧ (a = .new → ∀ b ∈ t, b = .new) ∧ Mono t

def AllOld (l : List Content) : Prop := ∀ a ∈ l, a = .old

/-- Where the refresher stands determines what is true of the shared state: the write lock is held exactly during the
swap (and then no lookup is inside), the content goes old → empty → new, and no answer is given during the swap. -/
def Phase (s : Sh) : Prop :=
  match s.wpc with
  | 0 => s.writerHolds = false ∧ s.content = .old ∧ AllOld s.answers
  | 1 => s.writerHolds = true ∧ s.inside = 0 ∧ s.content = .old ∧ AllOld s.answers
  | 2 => s.writerHolds = true ∧ s.inside = 0 ∧ s.content = .empty ∧ AllOld s.answers
  | 3 => s.writerHolds = true ∧ s.inside = 0 ∧ s.content = .new ∧ AllOld s.answers
  | 4 => s.writerHolds = false ∧ s.content = .new ∧ Mono s.answers
  | _ => False

theorem mono_of_allOld (l : List Content) (h : AllOld l) : Mono l := by
  induction l with
  | nil => trivial
  | cons a t ih =>
    have ha : a = .old := h a List.mem_cons_self
    exact ⟨Or.inl ha, fun hn => (by rw [ha] at hn; cases hn), ih fun b hb => h b (List.mem_cons_of_mem _ hb)⟩

theorem mono_append_new (l : List Content) (h : Mono l) : Mono (l ++ [.new]) := by
  induction l with
  | nil => exact ⟨Or.inr rfl, fun _ _ hb => (nomatch hb), trivial⟩
  | cons a t ih =>
    obtain ⟨h1, h2, h3⟩ := h
    refine ⟨h1, fun hn b hb => ?_, ih h3⟩
    rcases List.mem_append.mp hb with hb' | hb'
    · exact h2 hn b hb'
    · exact List.mem_singleton.mp hb'

theorem phase_stepW (s : Sh) (h : Phase s) : Phase (stepW s) := by
  fun_cases stepW s
  case case1 hw _ hc => simp only [Phase, hw] at h; exact ⟨rfl, hc.1, h.2⟩
  -- the swap without the write lock: excluded because the regenerated `swapHoldsWriteLock` evaluates to `true`
  case case3 hn => exact absurd rfl hn
  case case4 hw => simp only [Phase, hw] at h; exact ⟨h.1, h.2.1, rfl, h.2.2.2⟩
  case case5 hw => simp only [Phase, hw] at h; exact ⟨h.1, h.2.1, rfl, h.2.2.2⟩
  case case6 hw => simp only [Phase, hw] at h; exact ⟨rfl, h.2.2.1, mono_of_allOld _ h.2.2.2⟩
  -- `case2` (the lock is not free: blocked) and `case7` (after the swap) leave `s` as it is
  all_goals exact h

/-- A lookup is inside, so the refresher does not hold the write lock: it is before or after the swap. -/
theorem phase_inside (s : Sh) (h : Phase s) (hi : s.inside ≠ 0) :
    (s.wpc = 0 ∧ s.content = .old ∧ AllOld s.answers) ∨ (s.wpc = 4 ∧ s.content = .new ∧ Mono s.answers) := by
  unfold Phase at h
  split at h
  · exact Or.inl ⟨‹_›, h.2⟩
  · exact absurd h.2.1 hi
  · exact absurd h.2.1 hi
  · exact absurd h.2.1 hi
  · exact Or.inr ⟨‹_›, h.2⟩
  · exact h.elim

theorem phase_step (s : Sh) (e : Ev) (h : Phase s) : Phase (step s e) := by
  fun_cases step s e
  case case1 => exact phase_stepW s h
  case case3 hw =>
    -- `inside` only matters while the write lock is held, and then nobody enters
    have hw' : s.writerHolds = false := by simpa [lookupHoldsReadLock] using hw
    revert h
    unfold Phase
    dsimp only
    split <;> intro h <;> first | exact h | (rw [hw'] at h; cases h.1)
  case case5 hi =>
    rcases phase_inside s h hi with ⟨hw, hc, ha⟩ | ⟨hw, hc, ha⟩ <;>
      (unfold Phase at h ⊢; simp only [hw] at h ⊢; rw [hc])
    · exact ⟨h.1, rfl, fun a h' => (List.mem_append.mp h').elim (ha a) List.mem_singleton.mp⟩
    · exact ⟨h.1, rfl, mono_append_new _ ha⟩
  all_goals exact h

theorem phase_run (sched : List Ev) : Phase (runSched sched) :=
  List.foldlRecOn sched step ⟨rfl, rfl, fun _ h => nomatch h⟩ fun s h e _ => phase_step s e h

theorem mono_old_or_new (l : List Content) (h : Mono l) : ∀ a ∈ l, a = .old ∨ a = .new := by
  induction l with
  | nil => exact fun _ h => nomatch h
  | cons x t ih =>
    intro a ha
    rcases List.mem_cons.mp ha with rfl | hm
    · exact h.1
    · exact ih h.2.2 a hm

/-- **Refresh is atomic for observers, under every schedule:** every lookup — any number of them, interleaved in any way
with the micro-steps of the swap — is answered from the complete old list or the complete new list, never from the
empty or half-filled store, and once a lookup has seen the new list no later one sees the old one. -/
theorem refresh_atomic (sched : List Ev) :
    (∀ a ∈ (runSched sched).answers, a = .old ∨ a = .new) ∧ Mono (runSched sched).answers := by
  have hm : Mono (runSched sched).answers := by
    have h := phase_run sched
    unfold Phase at h
    split at h
    · exact mono_of_allOld _ h.2.2
    · exact mono_of_allOld _ h.2.2.2
    · exact mono_of_allOld _ h.2.2.2
    · exact mono_of_allOld _ h.2.2.2
    · exact h.2.2
    · exact h.elim
  exact ⟨mono_old_or_new _ hm, hm⟩

/-- A refresh that never reaches the swap (it failed before) is invisible: every lookup is answered from the old list. -/
theorem no_swap_all_old (sched : List Ev) (hno : ∀ e ∈ sched, e ≠ .writer) :
    ∀ a ∈ (runSched sched).answers, a = .old := by
  have hw : (runSched sched).wpc = 0 :=
    List.foldlRecOn sched step (motive := fun s => s.wpc = 0) rfl fun s h e he => by
      cases e with
      | writer => exact absurd rfl (hno _ he)
      | enter => simp only [step]; split <;> exact h
      | read => simp only [step]; split <;> exact h
  have h := phase_run sched
  unfold Phase at h
  rw [hw] at h
  exact h.2.2

/-- The lock discipline the theorem rests on, as found in the source on this run. -/
theorem lock_discipline : lookupHoldsReadLock = true ∧ swapHoldsWriteLock = true := by decide +kernel

-- Non-vacuity: a schedule in which a lookup tries to get in while the store is cleared.
example : (runSched [.enter, .read, .writer, .writer, .enter, .read, .writer, .writer, .enter, .read]).answers = [.old, .new] := by decide +kernel

/-! Source fingerprints (`Crv/Proofs/Skeleton.lean`) re-exported into this namespace: a change to any of the fingerprinted Go
functions breaks an obligation of this property. -/
theorem repo_sources_as_transcribed : Crv.Generated.skeletonRepo = Crv.Skeleton.expectedRepo :=
  Crv.Skeleton.repo_sources_as_transcribed

theorem store_sources_as_transcribed : Crv.Generated.skeletonStore = Crv.Skeleton.expectedStore :=
  Crv.Skeleton.store_sources_as_transcribed

end Crv.Props.C08
