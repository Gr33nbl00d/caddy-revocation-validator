import Crv.Proofs.Repo
import Crv.Proofs.Skeleton
import Crv.Generated.Config
/-!
C16 — the signature policy means the same at provisioning, first load, refresh and after restart.
One predicate `acceptable mode doc candidates` decides every intake path of the repository model:
`verify` needs a candidate signer that verifies; `verify_log` and `none` accept every parseable CRL.
The flags `firstLoadHonoursMode` / `refreshHonoursMode` are regenerated from loadCRL / updateCrlEntry,
`persistedNeedsSignerUnderVerify` from addNewEmptyEntry.
Histories may restart the process with another signature mode (`Op.reconfigure`); "the mode" of a theorem over
histories is the current one, `(run cfg ops).cfg.sigMode`, or the one configured at the intake (`Accept.mode`).
-/
namespace Crv.Props.C16
open Crv Crv.Repo Crv.Generated

/-- Both intake functions consult the configured mode (translator facts). -/
theorem both_paths_honour_mode : firstLoadHonoursMode = true ∧ refreshHonoursMode = true := by decide +kernel

/-- An unset mode means `verify`; the three documented names parse to themselves; anything else is rejected. -/
theorem unset_is_verify : parseSignatureValidationMode "" = some .verify := by decide +kernel
theorem mode_names : parseSignatureValidationMode "none" = some .none ∧
    parseSignatureValidationMode "verify_log" = some .verifyLog ∧ parseSignatureValidationMode "verify" = some .verify := by decide +kernel

/-- First load (first CDP fetch, background first load, first half of provisioning): succeeds exactly when a parseable
document is served and it is acceptable under the policy against the candidates of that intake. -/
theorem first_load_accepts_iff (s : State) (loc : Loc) (e : Entry) (cands : List Signer)
    (hopen : loadRefused s e = false) :
    (loadCRL s loc e cands).2 = .ok ↔ ∃ d, servedAt s loc = .doc d ∧ acceptable s.cfg.sigMode d cands = true := by
  -- `stage_ok_iff` is about `stage _ true`, `loadCRL` calls `stage _ firstLoadHonoursMode`: the literal is rewritten into the
  -- regenerated flag (equal by evaluation), so that it matches the hypotheses of the branches below
  rw [← stage_ok_iff, show true = firstLoadHonoursMode from rfl]
  fun_cases loadCRL s loc e cands
  case case1 hr => rw [hopen] at hr; cases hr
  case case2 st d v hst _ => exact ⟨fun _ => ⟨st, d, v, hst⟩, fun _ => rfl⟩
  case case3 hn => exact ⟨nofun, fun ⟨st, d, v, h⟩ => (hn st d v h).elim⟩

/-- Refresh (periodic tick, second half of provisioning, refresh after restart): same predicate, against the given
chains or else the persisted signer certificate. -/
theorem refresh_accepts_iff (s : State) (loc : Loc) (e : Entry) (nc : Option (List Signer))
    (hopen : refreshRefused s e = false) (hlocs : e.store.hasLocs = true) :
    (updateCrlEntry s loc e nc).2 = .ok ↔
      ∃ d, servedAt s loc = .doc d ∧ acceptable s.cfg.sigMode d (refreshCands e nc) = true := by
  -- as in `first_load_accepts_iff`, with the regenerated `refreshHonoursMode`
  rw [← stage_ok_iff, show true = refreshHonoursMode from rfl]
  fun_cases updateCrlEntry s loc e nc
  case case1 hr => rw [hopen] at hr; cases hr
  case case2 hr => rw [hlocs] at hr; cases hr
  case case3 st d v hst _ => exact ⟨fun _ => ⟨st, d, v, hst⟩, fun _ => rfl⟩
  case case4 d hst => exact ⟨nofun, fun ⟨st, d', v, h⟩ => by rw [hst] at h; cases h⟩
  case case5 hn _ => exact ⟨nofun, fun ⟨st, d, v, h⟩ => (hn st d v h).elim⟩

/-- Under `verify_log` and `none` a parseable CRL is accepted and keeps being refreshed even when its signer cannot be verified. -/
theorem parseable_keeps_refreshing (s : State) (loc : Loc) (e : Entry) (nc : Option (List Signer)) (d : DocA)
    (hm : s.cfg.sigMode = .none ∨ s.cfg.sigMode = .verifyLog)
    (hopen : refreshRefused s e = false) (hlocs : e.store.hasLocs = true) (hsv : servedAt s loc = .doc d) :
    (updateCrlEntry s loc e nc).2 = .ok := by
  rw [refresh_accepts_iff s loc e nc hopen hlocs]
  refine ⟨d, hsv, ?_⟩
  rcases hm with hm | hm <;> rw [hm] <;> rfl

/-- **Under `verify` a CRL that fails verification is never in force — neither now nor after a restart**, for ALL histories,
including those that change the signature mode across restarts (`Op.reconfigure`): whatever is in force while the process
runs under `verify` was verified against the candidates presented at some intake — possibly in an earlier run under another
mode, by a load, a refresh or a signature-certificate retry that presented the signer. -/
theorem verify_in_force_was_verified (cfg : Cfg) (ops : List Op)
    (hm : (run cfg ops).cfg.sigMode = .verify) (loc : Loc) (d : DocA)
    (hf : inForce (run cfg ops) loc d) :
    ∃ a ∈ (run cfg ops).log, a.loc = loc ∧ a.doc = d ∧ verifies d a.cands = true :=
  (inv_run cfg ops).inForce_verified hm hf

theorem verify_in_force_was_verified_constant_mode (cfg : Cfg) (ops : List Op) (hm : cfg.sigMode = .verify)
    (hnr : ∀ op ∈ ops, ∀ m', op ≠ .reconfigure m') (loc : Loc) (d : DocA) (hf : inForce (run cfg ops) loc d) :
    ∃ a ∈ (run cfg ops).log, a.loc = loc ∧ a.doc = d ∧ verifies d a.cands = true :=
  verify_in_force_was_verified cfg ops (by rw [cfg_run_of_no_reconfigure cfg ops hnr]; exact hm) loc d hf

/-- Whatever is in force under `verify` carries a stored signer certificate, and that signer verified some list of this
location against presented candidates (after a signature-certificate retry it is the signer of the newer list whose
refresh had failed verification, not necessarily of the list in force — which was verified by its own signer). -/
theorem verify_in_force_has_seen_signer (cfg : Cfg) (ops : List Op)
    (hm : (run cfg ops).cfg.sigMode = .verify) (loc : Loc) (d : DocA) (hf : inForce (run cfg ops) loc d) :
    ∃ e sg, (loc, e) ∈ (run cfg ops).entries ∧ e.store.doc = some d ∧ e.store.signer = some sg ∧
      ∃ a ∈ (run cfg ops).log, a.loc = loc ∧ a.doc.signer = sg ∧ verifies a.doc a.cands = true :=
  (inv_run cfg ops).inForce_signer hm hf

/-- What restart finds on disk: a persisted store that holds a document holds one that was accepted — under the mode
configured at the time of its intake (`Accepted` reads the mode from the log record; `accepted_at_intake` spells it
out as the mode of the run after a prefix of the history). All histories. -/
theorem persisted_was_accepted (cfg : Cfg) (ops : List Op) (loc : Loc) (st : Store) (d : DocA)
    (hmem : (loc, st) ∈ (run cfg ops).disk) (hdoc : st.doc = some d) : Accepted (run cfg ops) loc d :=
  ((inv_run cfg ops).2 (loc, st) hmem).accepted d hdoc

theorem persisted_was_accepted_at_intake (cfg : Cfg) (ops : List Op) (loc : Loc) (st : Store) (d : DocA)
    (hmem : (loc, st) ∈ (run cfg ops).disk) (hdoc : st.doc = some d) :
    ∃ pre suf cands, ops = pre ++ suf ∧ acceptable (run cfg pre).cfg.sigMode d cands = true := by
  obtain ⟨a, -, -, -, pre, suf, h⟩ := accepted_at_intake cfg ops loc d (persisted_was_accepted cfg ops loc st d hmem hdoc)
  exact ⟨pre, suf, a.cands, h⟩

/-- A persisted store that carries a signer certificate holds a verified list, in every reachable state. This is what makes
`addNewEmptyEntry`'s test "signer certificate stored" a sound criterion after a restart under `verify`. -/
theorem persisted_with_signer_was_verified (cfg : Cfg) (ops : List Op)
    (loc : Loc) (st : Store) (d : DocA) (hmem : (loc, st) ∈ (run cfg ops).disk) (hdoc : st.doc = some d)
    (hs : st.signer.isSome = true) :
    ∃ a ∈ (run cfg ops).log, a.loc = loc ∧ a.doc = d ∧ verifies d a.cands = true :=
  ((inv_run cfg ops).2 (loc, st) hmem).verified d hdoc hs

theorem unverified_persisted_not_loaded_under_verify (s : State) (loc : Loc) (cands : List Signer)
    (hm : s.cfg.sigMode = .verify) (hs : ∀ st, lookup s.disk loc = some st → st.signer = none) :
    (newEntry s loc cands).loaded = false := by
  unfold newEntry
  by_cases hd : s.cfg.disk = true
  · simp only [hd, ↓reduceIte]
    cases hl : lookup s.disk loc with
    | none => simp
    | some st => simp [hs st hl, hm, persistedNeedsSignerUnderVerify]
  · simp [hd]

theorem unverified_persisted_not_loaded_after_reconfigure (s : State) (loc : Loc) (cands : List Signer)
    (hs : ∀ st, lookup s.disk loc = some st → st.signer = none) :
    (newEntry (reconfigure s .verify) loc cands).loaded = false :=
  unverified_persisted_not_loaded_under_verify (reconfigure s .verify) loc cands rfl hs

/-- The regenerated fact the two theorems above rest on (crlrepository.go:addNewEmptyEntry). -/
theorem persisted_fact : persistedNeedsSignerUnderVerify = true := by decide +kernel

-- Non-vacuity: unknown signer (9) under the three modes, first load then refresh.
-- `m` is not used: one history, run under the three initial modes
def hist (m : SigMode) : List Op :=
  [.serve 1 (.doc ⟨7, [10], 9, 1⟩), .handshake ⟨7, 10, some 1⟩ [1], .serve 1 (.doc ⟨7, [11], 9, 2⟩), .tick [1],
   .handshake ⟨7, 11, some 1⟩ [1]]
example : isRevoked (run { sigMode := .verify } (hist .verify)) (run { sigMode := .verify } (hist .verify)).entries ⟨7, 11, none⟩ = .notRevoked := by decide +kernel
example : isRevoked (run { sigMode := .verifyLog } (hist .verifyLog)) (run { sigMode := .verifyLog } (hist .verifyLog)).entries ⟨7, 11, none⟩ = .revoked := by decide +kernel
example : isRevoked (run { sigMode := .none } (hist .none)) (run { sigMode := .none } (hist .none)).entries ⟨7, 11, none⟩ = .revoked := by decide +kernel

/-! ### Restart with another mode -/

/-- A list signed by an unknown signer (9) is taken in under `none` (it is on disk, no signer certificate), then the process is
restarted under `verify` and a handshake arrives: the persisted list is not loaded, loading again fails verification —
nothing is in force, the certificate it lists is not revoked. -/
def unverifiedThenVerify : List Op :=
  [.serve 1 (.doc ⟨7, [10], 9, 1⟩), .handshake ⟨7, 10, some 1⟩ [1], .reconfigure .verify, .handshake ⟨7, 10, some 1⟩ [1]]
-- before the restart it is in force …
example : inForce (run { sigMode := .none } (unverifiedThenVerify.take 2)) 1 ⟨7, [10], 9, 1⟩ := by decide +kernel
-- … and it is still on disk afterwards, without signer certificate
example : lookup (run { sigMode := .none } unverifiedThenVerify).disk 1 = some ⟨some ⟨7, [10], 9, 1⟩, true, none⟩ := by decide +kernel
example : (run { sigMode := .none } unverifiedThenVerify).cfg.sigMode = .verify := by decide +kernel
example : ¬ inForce (run { sigMode := .none } unverifiedThenVerify) 1 ⟨7, [10], 9, 1⟩ := by decide +kernel
example : presentAndLoaded (run { sigMode := .none } unverifiedThenVerify) 1 = false := by decide +kernel
example : isRevoked (run { sigMode := .none } unverifiedThenVerify) (run { sigMode := .none } unverifiedThenVerify).entries
    ⟨7, 10, some 1⟩ = .notRevoked := by decide +kernel

/-- Contrast: under `verify_log` a handshake presented the signer (9) before the restart; its certificate was stored with the
list, so after the restart under `verify` the list is still in force. -/
def verifiedThenVerify : List Op :=
  [.serve 1 (.doc ⟨7, [10], 9, 1⟩), .handshake ⟨7, 10, some 1⟩ [9], .reconfigure .verify, .handshake ⟨7, 10, some 1⟩ [1]]
example : (run { sigMode := .verifyLog } verifiedThenVerify).cfg.sigMode = .verify := by decide +kernel
example : inForce (run { sigMode := .verifyLog } verifiedThenVerify) 1 ⟨7, [10], 9, 1⟩ := by decide +kernel
example : isRevoked (run { sigMode := .verifyLog } verifiedThenVerify) (run { sigMode := .verifyLog } verifiedThenVerify).entries
    ⟨7, 10, some 1⟩ = .revoked := by decide +kernel

/-- Contrast, through the signature-certificate retry: under `verify_log` the list is installed unverified (candidates [1]),
the next refresh cannot verify it either (failure flag), a later handshake presents the signer (9): the retry stores its
certificate (ghost: the verification is logged). After the restart under `verify` the list is in force, and it was verified. -/
def retryThenVerify : List Op :=
  [.serve 1 (.doc ⟨7, [10], 9, 1⟩), .handshake ⟨7, 10, some 1⟩ [1], .tick [1], .handshake ⟨7, 10, some 1⟩ [9],
   .reconfigure .verify, .handshake ⟨7, 10, some 1⟩ [1]]
example : inForce (run { sigMode := .verifyLog } retryThenVerify) 1 ⟨7, [10], 9, 1⟩ := by decide +kernel
example : ∃ a ∈ (run { sigMode := .verifyLog } retryThenVerify).log, a.loc = 1 ∧ a.doc = ⟨7, [10], 9, 1⟩ ∧
    verifies ⟨7, [10], 9, 1⟩ a.cands = true := by decide +kernel
-- the same history without the handshake that presented the signer: nothing in force after the restart
example : ¬ inForce (run { sigMode := .verifyLog } [.serve 1 (.doc ⟨7, [10], 9, 1⟩), .handshake ⟨7, 10, some 1⟩ [1], .tick [1],
    .reconfigure .verify, .handshake ⟨7, 10, some 1⟩ [1]]) 1 ⟨7, [10], 9, 1⟩ := by decide +kernel

/-- A history on which the signature-certificate retry must not run for a *not loaded* entry (`retryOnlyWhenLoaded`,
`Crv.Repo.retry_needs_loaded`). (1) Under `none`, fetch mode `background`, a list signed by the unknown signer 9 is taken in
(handshake adds the entry, the tick loads it): on disk, no signer certificate. (2) Restart under `verify`. (3) The origin
serves a newer list signed by 5; provisioning of location 1 with trusted signers [1]: `AddCRL` opens the entry over the
persisted list — not loaded (`addNewEmptyEntry`), no active load in background mode; `UpdateCRL` refreshes whatever the loaded
flag, the new list fails verification: failure flag set, `LastUpdateSignature` = the new list, the store still holds the old
unverified list. (4) A handshake presents signer 5: the entry is not loaded, so the retry does not run and the store stays
without signer certificate (a retry here would store 5's certificate with the old store). (5) Restart (still `verify`),
handshake: the old list is not loaded, not in force, nothing is answered from it, and it is still on disk without signer
certificate. -/
def cexCfg : Cfg := { sigMode := .none, fetch := .background }
def cexOps : List Op :=
  [.serve 1 (.doc ⟨7, [10], 9, 1⟩), .handshake ⟨7, 10, some 1⟩ [1], .tick [1],
   .reconfigure .verify,
   .serve 1 (.doc ⟨7, [11], 5, 2⟩), .provision 1 [1],
   .handshake ⟨7, 10, some 1⟩ [5],
   .restart, .handshake ⟨7, 10, some 1⟩ [1]]

theorem former_counterexample_now_harmless :
    (run cexCfg cexOps).cfg.sigMode = .verify ∧
    ¬ inForce (run cexCfg cexOps) 1 ⟨7, [10], 9, 1⟩ ∧
    presentAndLoaded (run cexCfg cexOps) 1 = false ∧
    isRevoked (run cexCfg cexOps) (run cexCfg cexOps).entries ⟨7, 10, some 1⟩ = .notRevoked ∧
    lookup (run cexCfg cexOps).disk 1 = some ⟨some ⟨7, [10], 9, 1⟩, true, none⟩ := by
  decide +kernel

-- after step (4): the failure flag is still set, the retry did not run, no signer certificate was stored
example : lookup (run cexCfg (cexOps.take 7)).entries 1 =
    some { store := ⟨some ⟨7, [10], 9, 1⟩, true, none⟩, loaded := false, sigFailed := true,
           lastDoc := some ⟨7, [11], 5, 2⟩, chains := [1] } := by decide +kernel
-- with strict CDP checking the certificate naming this distribution point is denied at the end
example : isRevoked (run { cexCfg with strict := true } cexOps) (run { cexCfg with strict := true } cexOps).entries
    ⟨7, 10, some 1⟩ = .error := by decide +kernel
-- the retry still works where it is meant to: a LOADED entry whose refresh failed verification (list 2 signed by 5, candidates [1]),
-- then a handshake presenting 5 stores 5's certificate; list 1 (verified at its intake) stays in force
example : lookup (run { sigMode := .verify } [.serve 1 (.doc ⟨7, [10], 1, 1⟩), .handshake ⟨7, 10, some 1⟩ [1],
    .serve 1 (.doc ⟨7, [11], 5, 2⟩), .tick [1], .handshake ⟨7, 10, some 1⟩ [5]]).disk 1 =
    some ⟨some ⟨7, [10], 1, 1⟩, true, some 5⟩ := by decide +kernel

/-! Source fingerprints (`Crv/Proofs/Skeleton.lean`) re-exported into this namespace: a change to any of the fingerprinted Go
functions breaks an obligation of this property. -/
theorem repo_sources_as_transcribed : Crv.Generated.skeletonRepo = Crv.Skeleton.expectedRepo :=
  Crv.Skeleton.repo_sources_as_transcribed

end Crv.Props.C16
