import Crv.Proofs.StoreLdb
import Crv.Proofs.Skeleton
import Crv.Generated.Mode
import Crv.Props.C03
/-!
C09 — Fail closed: a storage failure during lookup is never reported as "not revoked".

Over the storage model (`Crv.Store`), whose lookup functions interpret the decision tables regenerated from
`LevelDbStore.GetCertRevocationStatus`, `MapStore.GetCertRevocationStatus`, `Repository.checkCrl` and
`Repository.IsRevoked` on every run (`Crv.Generated.Store`), and the regenerated statement list of
`VerifyClientCertificate` (`Crv.Generated.verifyProg`). All statements quantify over every store state,
key, fault kind, repository content and enumeration order.
-/
namespace Crv.Props.C09
open Crv Crv.Store Crv.Generated

/-- Disk: any failure of `Db.Get` other than "key not found" (I/O error, corrupted block, ...) is an error. -/
theorem lookup_fault_is_error (dec : Kind → Val → Bool) (d : Disk) (h : Ldb) (f : Fault) (hf : h.fault = some f)
    (i : List UInt8) (s : Int) : h.lookup dec d i s = .error :=
  Ldb.lookup_error dec (fun _ H => nomatch H.fault.symm.trans hf) i s

/-- Disk: a lookup after `Close` (e.g. by a concurrent shutdown) is an error. -/
theorem closed_is_error (dec : Kind → Val → Bool) (d : Disk) (h : Ldb) (hc : h.isOpen = false)
    (i : List UInt8) (s : Int) : h.lookup dec d i s = .error :=
  Ldb.lookup_error dec (fun _ H => nomatch H.isOpen.symm.trans hc) i s

/-- ... in particular after the `Close` method itself, whatever the state before. -/
theorem lookup_after_close_is_error (dec : Kind → Val → Bool) (d : Disk) (h : Ldb) (i : List UInt8) (s : Int) :
    (h.close d).2.lookup dec (h.close d).1 i s = .error := by
  apply closed_is_error
  unfold Ldb.close
  cases ho : h.isOpen <;> simp [ho]

/-- Disk: the directory vanished underneath an open handle. -/
theorem missing_dir_is_error (dec : Kind → Val → Bool) (d : Disk) (h : Ldb) (hd : d.dirs h.path = none)
    (i : List UInt8) (s : Int) : h.lookup dec d i s = .error :=
  Ldb.lookup_error dec (fun _ H => nomatch H.dirs.symm.trans hd) i s

/-- Both backends: a stored value the deserializer rejects (garbage, truncated record) is an error. -/
theorem undecodable_is_error (dec : Kind → Val → Bool) (i : List UInt8) (s : Int) (v : Val) (hv : dec .entry v = false) :
    (∀ (m : MapStore), m.rawGet (key i s) = some v → m.lookup dec i s = .error) ∧
    (∀ (d : Disk) (h : Ldb), h.dbGet d (hkey (key i s)) = .found v → h.lookup dec d i s = .error) := by
  constructor
  · intro m hg
    simp [MapStore.lookup_eq, hg, hv]
  · intro d h hg
    simp [Ldb.lookup_eq, hg, hv]

/-- Disk: "not revoked" is answered **only** when the database positively reports the key as not found. -/
theorem ldb_absent_iff (dec : Kind → Val → Bool) (d : Disk) (h : Ldb) (i : List UInt8) (s : Int) :
    h.lookup dec d i s = .absent ↔ h.dbGet d (hkey (key i s)) = .notFound := by
  rw [Ldb.lookup_eq]
  cases h.dbGet d (hkey (key i s)) <;> simp
  split <;> simp

/-- Memory: "not revoked" is answered only when the map has no binding for the hashed key. -/
theorem map_absent_iff (dec : Kind → Val → Bool) (m : MapStore) (i : List UInt8) (s : Int) :
    m.lookup dec i s = .absent ↔ m.rawGet (key i s) = none := by
  rw [MapStore.lookup_eq]
  cases m.rawGet (key i s) <;> simp
  split <;> simp

/-- `checkCrl`: an entry whose store was dropped by a failed swap (`CRLStore == nil`) yields an error. -/
theorem nil_store_is_error (dec : Kind → Val → Bool) (d : Disk) (i : List UInt8) (s : Int) :
    checkCrl dec d (some { loaded := true, store := none }) i s = .error := checkCrl_some ..

/-- `checkCrl` propagates a lookup error of a loaded entry. -/
theorem checkCrl_propagates (dec : Kind → Val → Bool) (d : Disk) (st : AnyStore) (i : List UInt8) (s : Int)
    (h : st.lookup dec d i s = .error) : checkCrl dec d (some { loaded := true, store := some st }) i s = .error := by
  simp only [checkCrl_some, h]
  rfl

/-- An entry closed by `Repository.Close` makes the lookup fail, whatever its store holds. -/
theorem closed_entry_is_error (dec : Kind → Val → Bool) (d : Disk) (l : Bool) (st : Option AnyStore) (i : List UInt8) (s : Int) :
    checkCrl dec d (some { loaded := l, store := st, closed := true }) i s = .error := checkCrl_some ..

/-- `Repository.IsRevoked`: if any entry's check fails, the walk never ends in "not revoked", in whatever
order the identifiers are enumerated (Go map order = any list order). -/
theorem walk_not_good (dec : Kind → Val → Bool) (d : Disk) (i : List UInt8) (s : Int) :
    ∀ (es : List (Option Entry)), (∃ e ∈ es, checkCrl dec d e i s = .error) →
      walk dec d i s es = .error ∨ ∃ v, walk dec d i s es = .revoked v := by
  intro es h
  fun_induction walk dec d i s es with
  | case1 => obtain ⟨_, he, _⟩ := h; nomatch he
  | case2 e _ hc => exact absurd hc (checkCrl_ne_panic dec d e i s)
  | case3 => exact .inl rfl
  | case4 _ _ v => exact .inr ⟨v, rfl⟩
  | case5 _ _ hc ih =>
    obtain ⟨e', he', hce'⟩ := h
    rcases List.mem_cons.mp he' with rfl | he'
    · exact nomatch hc.symm.trans hce'
    · exact ih ⟨e', he', hce'⟩

theorem isRevoked_not_good (dec : Kind → Val → Bool) (d : Disk) (gate : Bool) (es : List (Option Entry))
    (i : List UInt8) (s : Int) (h : ∃ e ∈ es, checkCrl dec d e i s = .error) :
    ∃ c, (isRevoked dec d gate es i s).mech = some c ∧ c ≠ .good := by
  unfold isRevoked
  cases gate
  · rcases walk_not_good dec d i s es h with hw | ⟨v, hw⟩ <;> rw [hw]
    · exact ⟨.error, rfl, nofun⟩
    · exact ⟨.revoked, rfl, nofun⟩
  · exact ⟨.error, rfl, nofun⟩

theorem crl_failure_rejects {mode : Mode} (hm : crlEnabled mode = true) {c : MechOut} (hne : c ≠ .good) (o : MechOut) :
    (verifyProg.run mode (envOf o c) true).verdict = .reject :=
  (C03.verify_reject_iff mode o c).mpr (.inr ⟨C03.crlEnabled_doc mode ▸ hm, hne⟩)

/-- **Fail closed, end to end**: whenever the mode enables CRL checking and the lookup in some loaded entry
failed (store error, undecodable record, closed database, missing store), the handshake is rejected — for
every OCSP outcome that did not already reject, every repository content and enumeration order. -/
theorem store_failure_rejects (dec : Kind → Val → Bool) (d : Disk) (mode : Mode) (hm : crlEnabled mode = true)
    (gate : Bool) (es : List (Option Entry)) (i : List UInt8) (s : Int)
    (h : ∃ e ∈ es, checkCrl dec d e i s = .error) (o : MechOut) :
    ∃ c, (isRevoked dec d gate es i s).mech = some c ∧
      (verifyProg.run mode (envOf o c) true).verdict = .reject := by
  obtain ⟨c, hc, hne⟩ := isRevoked_not_good dec d gate es i s h
  exact ⟨c, hc, crl_failure_rejects hm hne o⟩

/-- `Repository.Close` never panics on a repository without nil entries (in particular not when called twice). -/
theorem repoClose_total (d : Disk) : ∀ (es : List (Option Entry)), (∀ e ∈ es, e ≠ none) → ∃ r, repoClose d es = some r
  | [], _ => ⟨_, rfl⟩
  | none :: _, h => absurd rfl (h none List.mem_cons_self)
  | some e :: rest, h => by
    obtain ⟨d1, e1, h1, -⟩ := closeEntry_some d e
    obtain ⟨r, hr⟩ := repoClose_total d1 rest (fun e' he' => h e' (List.mem_cons_of_mem _ he'))
    exact ⟨(r.1, some e1 :: r.2), by simp [repoClose, h1, hr]⟩

/-- **Shutdown fails closed**: after `Repository.Close` a lookup in a repository that holds any CRL is an error,
hence (CRL checking enabled) the handshake is rejected — never "not revoked". -/
theorem lookup_after_repository_close_is_error (dec : Kind → Val → Bool) (d d' : Disk) (es es' : List (Option Entry))
    (hc : repoClose d es = some (d', es')) (hne : es ≠ []) (gate : Bool) (i : List UInt8) (s : Int) :
    isRevoked dec d' gate es' i s = .error := by
  obtain ⟨hlen, hall⟩ := repoClose_marks d es d' es' hc
  unfold isRevoked
  cases gate
  · cases es' with
    | nil => exact absurd (List.length_eq_zero_iff.mp hlen.symm) hne
    | cons e' rest =>
      -- the first entry is closed, and its check already ends the walk
      obtain ⟨e, rfl, hcl⟩ := hall e' List.mem_cons_self
      rw [if_neg Bool.false_ne_true, walk_cons, checkCrl_some, hcl]
      rfl
  · rfl

theorem shutdown_rejects (dec : Kind → Val → Bool) (d d' : Disk) (es es' : List (Option Entry))
    (hc : repoClose d es = some (d', es')) (hne : es ≠ []) (mode : Mode) (hm : crlEnabled mode = true)
    (gate : Bool) (i : List UInt8) (s : Int) (o : MechOut) :
    (isRevoked dec d' gate es' i s).mech = some .error ∧
      (verifyProg.run mode (envOf o .error) true).verdict = .reject := by
  rw [lookup_after_repository_close_is_error dec d d' es es' hc hne gate i s]
  exact ⟨rfl, crl_failure_rejects hm (c := .error) nofun o⟩

/-!
### Open item in the Go code as it stands (full statement not provable)

Full statement wanted by C09: *for every fault class of the quantifier — database closed by a concurrent shutdown, read
error, undecodable record, store missing after a failed swap — a lookup of a listed certificate never yields "not
revoked".* Proved for every fault that surfaces **at a repository entry** (`fail_closed_partial`: closed entry, nil
store, faulty / closed / vanished database, undecodable record) and for shutdown (`shutdown_rejects`). It is false
for the path on which the repository drops the entry instead of failing the lookup: `updateCrlEntry` deletes the entry
after a failed directory swap (`fail_closed_failed_swap_counterexample`; replayed on the implementation on every run,
harness signature `C09 failed-swap-drops-crl-lookup-reports-not-revoked`, listed in known_findings.json).
-/

/-- The part of C09 that holds: every storage failure that surfaces at a repository entry denies the handshake. -/
theorem fail_closed_partial (dec : Kind → Val → Bool) (d : Disk) (mode : Mode) (hm : crlEnabled mode = true)
    (gate : Bool) (es : List (Option Entry)) (i : List UInt8) (s : Int) (o : MechOut)
    (h : ∃ e ∈ es, (∃ l st, e = some { loaded := l, store := st, closed := true }) ∨
      e = some { loaded := true, store := none } ∨
      ∃ hd : Ldb, e = some { loaded := true, store := some (.ldb hd) } ∧
        ((∃ f, hd.fault = some f) ∨ hd.isOpen = false ∨ d.dirs hd.path = none ∨
          (∃ v, hd.dbGet d (hkey (key i s)) = .found v ∧ dec .entry v = false))) :
    ∃ c, (isRevoked dec d gate es i s).mech = some c ∧
      (verifyProg.run mode (envOf o c) true).verdict = .reject := by
  apply store_failure_rejects dec d mode hm gate es i s _ o
  obtain ⟨e, he, hcase⟩ := h
  refine ⟨e, he, ?_⟩
  rcases hcase with ⟨l, st, rfl⟩ | rfl | ⟨hd, rfl, hf⟩
  · exact closed_entry_is_error dec d l st i s
  · exact nil_store_is_error dec d i s
  · apply checkCrl_propagates
    rcases hf with ⟨f, hf⟩ | hc | hdir | ⟨v, hg, hv⟩
    · exact lookup_fault_is_error dec d hd f hf i s
    · exact closed_is_error dec d hd hc i s
    · exact missing_dir_is_error dec d hd hdir i s
    · exact (undecodable_is_error dec i s v hv).2 d hd hg

section Counterexamples
def cxStore : MapStore := (MapStore.new.put (key [65] 5) [1, 2]).1
def cxEntries : List (Option Entry) := [some { loaded := true, store := some (.map cxStore) }]
def cxDec : Kind → Val → Bool := fun _ _ => true

/-- Failed swap: the entry is dropped, the listed serial is reported "not revoked" (and the handshake accepted). -/
theorem fail_closed_failed_swap_counterexample :
    isRevoked cxDec Disk.empty false cxEntries [65] 5 = .revoked [1, 2] ∧
    isRevoked cxDec Disk.empty false (failedSwap cxEntries 0) [65] 5 = .notRevoked ∧
    (verifyProg.run .crlOnly (envOf .good .good) true).verdict = .accept := by
  refine ⟨by decide, by decide, by decide⟩

example : ∃ d' es', repoClose Disk.empty cxEntries = some (d', es') ∧
    isRevoked cxDec d' false es' [65] 5 = .error :=
  ⟨_, _, rfl, by decide⟩
end Counterexamples

section Examples
def decNone : Kind → Val → Bool := fun _ v => v != [0xff]
def exDisk : Disk := (Ldb.fresh 1).1
def exH : Ldb := (Ldb.fresh 1).2
def exD2 : Disk := (exH.put exDisk (key [65] 5) [1, 2]).1
example : exH.lookup decNone exD2 [65] 5 = .revoked [1, 2] := by decide +kernel
example : exH.lookup decNone exD2 [65] 6 = .absent := by decide +kernel
example : ({ exH with fault := some .corrupt } : Ldb).lookup decNone exD2 [65] 6 = .error := by decide +kernel
example : (exH.close exD2).2.lookup decNone (exH.close exD2).1 [65] 5 = .error := by decide +kernel
example : exH.lookup decNone (exH.put exD2 (key [65] 5) [0xff]).1 [65] 5 = .error := by decide +kernel
example : (verifyProg.run .crlOnly (envOf .good .error) true).verdict = .reject := by decide +kernel
example : isRevoked decNone exD2 false
    [some { loaded := true, store := some (.ldb exH) }, some { loaded := true, store := none }] [65] 6 = .error := by decide +kernel
end Examples

/-! Source fingerprints (`Crv/Proofs/Skeleton.lean`) re-exported into this namespace: a change to any of the fingerprinted Go
functions breaks an obligation of this property. -/
theorem store_sources_as_transcribed : Crv.Generated.skeletonStore = Crv.Skeleton.expectedStore :=
  Crv.Skeleton.store_sources_as_transcribed

end Crv.Props.C09
