import Crv.Proofs.Chunk
import Crv.Reader
/-!
C06 (chunking) — the flat reader state of `Crv/Reader.lean` is a sound abstraction of the real byte source.

`Crv/Chunk.lean` models `bufio.Reader` (`Read`, `fill`, `Peek`, `Discard`) over an underlying reader that delivers
the stream in arbitrary non-empty chunks, the hashing wrapper's position counter and hash, and the repo's loops
`ReadExpectedBytes[Recursive]` / `PeekExpectedBytes`. The theorems below say that, seen through the abstraction
`abs s = (buffered ++ all chunks still to come, position, hashing, hashed)`, the three primitives are functions
of the abstract state only (`Flat.read`, `Flat.peek`, `Flat.discard`): the outcome does not depend on how the source
chops the stream, on the buffer size, or on where element boundaries fall relative to the buffer window — and
these abstract functions are exactly `Crv.readN`, `Crv.peekN`, `Crv.discard` of the flat model.

Envelope of the statements (both made explicit, both proved to be invariants of the reader's usage):
* peeks are within the buffer (`n + off ≤ cap`; the CRL reader peeks at most 17 bytes of a 4096-byte buffer).
  A peek beyond the buffer returns `ErrBufferFull` and may leave an `io.EOF` pending in `b.err` (`peek_beyond`);
* `ReadExpectedBytes(r, 0)` on a state with an empty buffer and a pending `io.EOF` (`Pending`) fails with "end of
  file" although zero bytes were asked for (`readFull_zero_pending`). `Pending` can only arise from a peek beyond
  the buffer (`NoErr` is preserved by everything else), so it is outside the envelope, and excluded by hypothesis.
-/
namespace Crv.Props.C06.Chunk
open Crv.Chunk
-- `discard` and `Res` exist in both `Crv` (flat model) and `Crv.Chunk`; the chunked ones are written `Chunk.discard`,
-- `Chunk.Res`. `Pending` is defined in `Crv/Proofs/Chunk.lean`, where the specification of `Read` needs it.

structure Flat where
  rest : Chunk.Bytes
  pos : Nat
  hashing : Bool
  hashed : Chunk.Bytes
  deriving Repr, DecidableEq

def abs (s : St) : Flat := ⟨flat s, s.pos, s.hashing, s.hashed⟩

/-- `ReadExpectedBytes(k)` on the flat state: fewer than `k` bytes left → "end of file", everything consumed (and
hashed when hashing); else the next `k` bytes, consumed (and hashed when hashing). -/
def Flat.read (k : Nat) (f : Flat) : Chunk.Res Chunk.Bytes × Flat :=
  if f.rest.length < k then
    (.err .eof, { f with rest := [], pos := f.pos + f.rest.length,
                         hashed := if f.hashing then f.hashed ++ f.rest else f.hashed })
  else
    (.ok (f.rest.take k), { f with rest := f.rest.drop k, pos := f.pos + k,
                                   hashed := if f.hashing then f.hashed ++ f.rest.take k else f.hashed })

/-- `PeekExpectedBytes(n, off)` on the flat state: nothing changes. -/
def Flat.peek (n off : Nat) (f : Flat) : Chunk.Res Chunk.Bytes × Flat :=
  if f.rest.length < n + off then (.err .eof, f) else (.ok ((f.rest.drop off).take n), f)

/-- `Discard(k)` on the flat state: position counted, never hashed. -/
def Flat.discard (k : Nat) (f : Flat) : Chunk.Res Unit × Flat :=
  if f.rest.length < k then (.err .eof, { f with rest := [], pos := f.pos + f.rest.length })
  else (.ok (), { f with rest := f.rest.drop k, pos := f.pos + k })

def NoErr (s : St) : Prop := s.err = false

instance (s : St) : Decidable (NoErr s) := by unfold NoErr; infer_instance

theorem not_pending_of_noErr {s : St} (h : NoErr s) : ¬ Pending s := by
  intro hp; unfold NoErr at h; rw [hp.2] at h; exact absurd h (by simp)

-- `Flat.read` and `Flat.discard` branch on `rest.length < k`, but with `take`/`drop` both branches are one expression;
-- in this form they meet `abs_took`. `peek_eq` only moves the `if` into the first component, the form of
-- `peekExpected_run`.

theorem Flat.read_eq (k : Nat) (f : Flat) :
    Flat.read k f = (if f.rest.length < k then .err .eof else .ok (f.rest.take k),
      ⟨f.rest.drop k, f.pos + (f.rest.take k).length, f.hashing,
       if f.hashing then f.hashed ++ f.rest.take k else f.hashed⟩) := by
  unfold Flat.read
  split <;> rename_i h
  · rw [List.take_of_length_le (by omega), List.drop_of_length_le (by omega)]
  · rw [List.length_take, Nat.min_eq_left (by omega)]

theorem Flat.discard_eq (k : Nat) (f : Flat) :
    Flat.discard k f = (if f.rest.length < k then .err .eof else .ok (),
      ⟨f.rest.drop k, f.pos + (f.rest.take k).length, f.hashing, f.hashed⟩) := by
  unfold Flat.discard
  split <;> rename_i h
  · rw [List.take_of_length_le (by omega), List.drop_of_length_le (by omega)]
  · rw [List.length_take, Nat.min_eq_left (by omega)]

theorem Flat.peek_eq (n off : Nat) (f : Flat) :
    Flat.peek n off f = (if f.rest.length < n + off then .err .eof else .ok ((f.rest.drop off).take n), f) := by
  unfold Flat.peek
  split <;> rfl

theorem abs_took {k : Nat} {hashes : Bool} {s s' : St} (t : Took ((flat s).take k) hashes s s') :
    abs s' = ⟨(flat s).drop k, s.pos + ((flat s).take k).length, s.hashing,
      if hashes && s.hashing then s.hashed ++ (flat s).take k else s.hashed⟩ := by
  unfold abs
  rw [t.pos, t.hashing, t.hashed,
    List.append_cancel_left (t.flat.symm.trans (List.take_append_drop k (flat s)).symm)]

theorem abs_adv_nil {n : Nat} {s s' : St} (a : Adv [] n s s') : abs s' = abs s := by
  unfold abs
  rw [a.same.pos, a.same.hashing, a.same.hashed, a.flat, List.nil_append]

/-- For every well-formed chunked state — any chunking of the source, any buffer content, any buffer size ≥ 16 —
`ReadExpectedBytes(k)` is the flat read `Flat.read k` of the abstract state. The hypothesis excludes only the zero-byte
read in the `Pending` corner (`readFull_zero_pending`). -/
theorem readFull_refines (k : Nat) (s : St) (wf : WF s) (h : 0 < k ∨ ¬ Pending s) :
    ((readFull k s).1, abs (readFull k s).2) = Flat.read k (abs s) ∧
    WF (readFull k s).2 ∧ (readFull k s).2.cap = s.cap ∧
    ((readFull k s).2.err = true → s.err = true) := by
  obtain ⟨r, t⟩ := readFull_run k s wf
  have hc : ((flat s).length < k ∨ k = 0 ∧ Pending s) ↔ (flat s).length < k :=
    or_iff_left fun hp => h.elim (by omega) (fun hn => hn hp.2)
  refine ⟨?_, t.wf, t.cap, t.err⟩
  rw [Flat.read_eq, abs_took t, r]
  simp only [hc, Bool.true_and]
  rfl

/-- The corner outside the envelope: a zero-byte read with empty buffer and pending `io.EOF` reports
"end of file" (nothing consumed; the pending error is cleared by this). -/
theorem readFull_zero_pending (s : St) (wf : WF s) (hp : Pending s) :
    (readFull 0 s).1 = .err .eof ∧ abs (readFull 0 s).2 = abs s ∧ WF (readFull 0 s).2 := by
  obtain ⟨r, t⟩ := readFull_run 0 s wf
  exact ⟨by rw [r, if_pos (Or.inr ⟨rfl, hp⟩)], by rw [abs_took t]; simp [abs], t.wf⟩

theorem peek_refines (n off : Nat) (s : St) (wf : WF s) (h : n + off ≤ s.cap) :
    ((peekExpected n off s).1, abs (peekExpected n off s).2) = Flat.peek n off (abs s) ∧
    WF (peekExpected n off s).2 ∧ (peekExpected n off s).2.cap = s.cap ∧
    ((peekExpected n off s).2.err = true → s.err = true) := by
  obtain ⟨r, a, he⟩ := peekExpected_run n off s wf h
  refine ⟨?_, a.wf, a.same.cap, he⟩
  rw [Flat.peek_eq, r, abs_adv_nil a]
  rfl

/-- A peek beyond the buffer size always fails with `ErrBufferFull`; the abstract state is still unchanged. -/
theorem peek_beyond (n off : Nat) (s : St) (wf : WF s) (h : s.cap < n + off) :
    (peekExpected n off s).1 = .err .bufferFull ∧ abs (peekExpected n off s).2 = abs s ∧
    WF (peekExpected n off s).2 := by
  obtain ⟨r, a⟩ := peekExpected_beyond n off s wf h
  exact ⟨r, abs_adv_nil a, a.wf⟩

theorem discard_refines (k : Nat) (s : St) (wf : WF s) :
    ((Chunk.discard k s).1, abs (Chunk.discard k s).2) = Flat.discard k (abs s) ∧
    WF (Chunk.discard k s).2 ∧ (Chunk.discard k s).2.cap = s.cap ∧
    ((Chunk.discard k s).2.err = true → s.err = true) := by
  obtain ⟨r, t, _⟩ := discard_run k s wf
  refine ⟨?_, t.wf, t.cap, t.err⟩
  rw [Flat.discard_eq, abs_took t, r]
  rfl

theorem chunking_irrelevant (s t : St) (ws : WF s) (wt : WF t) (h : abs s = abs t) :
    (∀ k, (0 < k ∨ (¬ Pending s ∧ ¬ Pending t)) →
      (readFull k s).1 = (readFull k t).1 ∧ abs (readFull k s).2 = abs (readFull k t).2) ∧
    (∀ n off, n + off ≤ s.cap → n + off ≤ t.cap →
      (peekExpected n off s).1 = (peekExpected n off t).1 ∧
      abs (peekExpected n off s).2 = abs (peekExpected n off t).2) ∧
    (∀ k, (Chunk.discard k s).1 = (Chunk.discard k t).1 ∧ abs (Chunk.discard k s).2 = abs (Chunk.discard k t).2) := by
  refine ⟨fun k hk => ?_, fun n off h1 h2 => ?_, fun k => ?_⟩
  · exact Prod.mk.inj ((readFull_refines k s ws (hk.imp id And.left)).1.trans
      (h ▸ (readFull_refines k t wt (hk.imp id And.right)).1.symm))
  · exact Prod.mk.inj ((peek_refines n off s ws h1).1.trans (h ▸ (peek_refines n off t wt h2).1.symm))
  · exact Prod.mk.inj ((discard_refines k s ws).1.trans (h ▸ (discard_refines k t wt).1.symm))

/-- Inside the envelope nothing ever becomes pending: `NoErr` is an invariant of reads, discards and peeks within
the buffer, so `Pending` is unreachable from a freshly opened reader. -/
theorem noErr_invariant (s : St) (wf : WF s) (h : NoErr s) :
    (∀ k, NoErr (readFull k s).2) ∧ (∀ n off, n + off ≤ s.cap → NoErr (peekExpected n off s).2) ∧
    (∀ k, NoErr (Chunk.discard k s).2) := by
  have keep : ∀ {s' : St}, (s'.err = true → s.err = true) → NoErr s' :=
    fun he => Bool.eq_false_iff.mpr fun e => Bool.eq_false_iff.mp h (he e)
  exact ⟨fun k => keep (readFull_refines k s wf (Or.inr (not_pending_of_noErr h))).2.2.2,
    fun n off hn => keep (peek_refines n off s wf hn).2.2.2, fun k => keep (discard_refines k s wf).2.2.2⟩

/-- A freshly opened reader (`bufio.NewReaderSize` + `NewHashingReaderWrapper`) is well-formed, has nothing pending,
and its abstract state is the whole stream at position 0 (empty chunks are dropped: the underlying readers never
return `(0, nil)`). -/
theorem open_ok (size : Nat) (chunks : List Chunk.Bytes) :
    WF (openRd size chunks) ∧ NoErr (openRd size chunks) ∧
    abs (openRd size chunks) = ⟨(chunks.filter (· ≠ [])).flatten, 0, false, []⟩ := by
  refine ⟨⟨?_, fun h => by simp [openRd] at h, by simp only [openRd]; omega⟩, rfl, by simp [abs, openRd, flat]⟩
  intro c hc
  simp only [openRd, List.mem_filter] at hc
  simpa using hc.2

/-- The part of `Crv.Rd` the chunked model accounts for (its ghost logs `allocs`, `events`, `queries`, `hashFrom`
are left out of the comparison). -/
def absRd (r : Crv.Rd) : Flat := ⟨r.rest, r.pos, r.hashing, r.hashed⟩

/-- The chunked state as a flat `Crv.Rd` (ghost logs empty). -/
def toRd (s : St) : Crv.Rd := { rest := flat s, pos := s.pos, hashing := s.hashing, hashed := s.hashed }

/-- Outcome of a flat-model primitive, up to the ghost logs: `ok`/`eof` carry over, anything else has no
counterpart. -/
def coreRes {α : Type} : Crv.Res α → Option (Chunk.Res α × Flat)
  | .ok a r => some (.ok a, absRd r)
  | .err .eof r => some (.err .eof, absRd r)
  | .err _ _ => none
  | .panic _ => none

theorem readN_flat (k : Nat) (r : Crv.Rd) : coreRes (Crv.readN (k : Int) r) = some (Flat.read k (absRd r)) := by
  unfold Crv.readN Flat.read absRd
  have h0 : ¬ ((k : Int) < 0) := by omega
  rw [if_neg h0]
  simp only [Int.toNat_natCast]
  by_cases hlt : r.rest.length < k
  · rw [if_pos hlt, if_pos hlt]; rfl
  · rw [if_neg hlt, if_neg hlt]; rfl

theorem peekN_flat (n off : Nat) (r : Crv.Rd) : coreRes (Crv.peekN n off r) = some (Flat.peek n off (absRd r)) := by
  unfold Crv.peekN Flat.peek absRd
  split <;> rfl

theorem discard_flat (k : Nat) (r : Crv.Rd) :
    coreRes (Crv.discard (k : Int) r) = some (Flat.discard k (absRd r)) := by
  unfold Crv.discard Flat.discard absRd
  have h0 : ¬ ((k : Int) < 0) := by omega
  rw [if_neg h0]
  simp only [Int.toNat_natCast]
  by_cases hlt : r.rest.length < k
  · rw [if_pos hlt, if_pos hlt]; rfl
  · rw [if_neg hlt, if_neg hlt]; rfl

/-- `Crv.readN`/`Crv.discard` take an `Int`; negative sizes are `panic`/`negative` there and have no chunked
counterpart: Go panics in `make` resp. returns `ErrNegativeCount` before touching the reader. -/
theorem flat_model_commutes (s : St) (r : Crv.Rd) (wf : WF s) (hr : absRd r = abs s) :
    (∀ k : Nat, (0 < k ∨ ¬ Pending s) →
      coreRes (Crv.readN (k : Int) r) = some ((readFull k s).1, abs (readFull k s).2)) ∧
    (∀ n off, n + off ≤ s.cap →
      coreRes (Crv.peekN n off r) = some ((peekExpected n off s).1, abs (peekExpected n off s).2)) ∧
    (∀ k : Nat, coreRes (Crv.discard (k : Int) r) = some ((Chunk.discard k s).1, abs (Chunk.discard k s).2)) := by
  refine ⟨?_, ?_, ?_⟩
  · intro k hk
    rw [readN_flat, hr, (readFull_refines k s wf hk).1]
  · intro n off hn
    rw [peekN_flat, hr, (peek_refines n off s wf hn).1]
  · intro k
    rw [discard_flat, hr, (discard_refines k s wf).1]

/-- The same, for the canonical flat image `toRd s`. -/
theorem toRd_commutes (s : St) (wf : WF s) (hn : NoErr s) :
    (∀ k : Nat, coreRes (Crv.readN (k : Int) (toRd s)) = some ((readFull k s).1, absRd (toRd (readFull k s).2))) ∧
    (∀ n off, n + off ≤ s.cap →
      coreRes (Crv.peekN n off (toRd s)) = some ((peekExpected n off s).1, absRd (toRd (peekExpected n off s).2))) ∧
    (∀ k : Nat, coreRes (Crv.discard (k : Int) (toRd s)) = some ((Chunk.discard k s).1, absRd (toRd (Chunk.discard k s).2))) := by
  -- `absRd (toRd x)` is `abs x` by `rfl`
  obtain ⟨a, b, c⟩ := flat_model_commutes s (toRd s) wf rfl
  exact ⟨fun k => a k (Or.inr (not_pending_of_noErr hn)), b, c⟩

/-- Ghost accounting of one `ReadExpectedBytes(k)`. `ps` are the byte counts returned by the wrapper's `Read`
calls of this invocation (one per iteration of `ReadExpectedBytesRecursive`; the failing one counts 0); the allocations
are `make([]byte, k)` once plus `make([]byte, bytesLeft)` per iteration. -/
theorem readFull_ghost (k : Nat) (s : St) (wf : WF s) :
    ∃ ps : List Nat,
      (readFull k s).2.parts = s.parts ++ ps ∧
      (readFull k s).2.allocs = s.allocs ++ k :: allocsOf k ps ∧
      1 ≤ ps.length ∧ ps.length ≤ max k 1 ∧
      (readFull k s).2.srcReads ≤ s.srcReads + ps.length ∧
      (readFull k s).2.srcReads ≤ s.srcReads + k ∧
      (readFull k s).2.pos = s.pos + ps.sum ∧ ps.sum ≤ k ∧
      (k :: allocsOf k ps).sum + saved ps = k * (ps.length + 1) ∧
      (k :: allocsOf k ps).sum ≤ k * (ps.length + 1) := by
  have wf0 : WF { s with allocs := s.allocs ++ [k] } := wf
  obtain ⟨_, t, ps, g1, g2, g3, g4, g5, g5', g6⟩ :=
    readLoop_run (k + 1) (out := readFull k s) rfl wf0 (Nat.lt_succ_self k)
  have hle : ps.sum ≤ k := by rw [g6, List.length_take]; omega
  have hsum := allocsOf_sum k ps hle
  refine ⟨ps, g1, by simpa using g2, g3, g4, g5, g5', by rw [t.of_allocs.pos, g6], hle, ?_, ?_⟩
  · simp only [List.sum_cons, Nat.mul_succ]; omega
  · simp only [List.sum_cons, Nat.mul_succ]; omega

/-- The `stalled` outcome is unreachable, so the fuel is a proof device, not a behavioural bound. -/
theorem never_stalled (s : St) (wf : WF s) :
    (∀ k, (readFull k s).1 ≠ .err .stalled) ∧
    (∀ n off, (peekExpected n off s).1 ≠ .err .stalled) ∧
    (∀ k, (Chunk.discard k s).1 ≠ .err .stalled) := by
  refine ⟨fun k => ?_, fun n off => ?_, fun k => ?_⟩
  · rw [(readFull_run k s wf).1]; split <;> simp
  · by_cases hn : n + off ≤ s.cap
    · rw [(peekExpected_run n off s wf hn).1]; split <;> simp
    · rw [(peekExpected_beyond n off s wf (by omega)).1]; simp
  · rw [(discard_run k s wf).1]; split <;> simp

/-- `Peek(n + off)` costs at most `n + off` underlying reads, `Discard(k)` at most `k`. -/
theorem peek_discard_reads (s : St) (wf : WF s) :
    (∀ n off, n + off ≤ s.cap → (peekExpected n off s).2.srcReads ≤ s.srcReads + (n + off)) ∧
    (∀ k, (Chunk.discard k s).2.srcReads ≤ s.srcReads + k) :=
  ⟨fun n off h => (peekExpected_run n off s wf h).2.1.reads, fun k => (discard_run k s wf).2.2⟩

/-! ### non-vacuity: a concrete reader, buffer size 16, three odd chunks (3 + 5 + 19 = 27 bytes) -/

def demo : St := openRd 16 [[1, 2, 3], [4, 5, 6, 7, 8],
  [9, 10, 11, 12, 13, 14, 15, 16, 17, 18, 19, 20, 21, 22, 23, 24, 25, 26, 27]]

example : WF demo ∧ NoErr demo := by decide +kernel
/-- 7 bytes across three chunks: three partial reads (3, 4 from the buffered 5, …). -/
example : (readFull 7 (startHash demo)).1 = .ok [1, 2, 3, 4, 5, 6, 7] := by decide +kernel
example : (readFull 7 (startHash demo)).2.parts = [3, 4] ∧ (readFull 7 (startHash demo)).2.buf = [8] ∧
    (readFull 7 (startHash demo)).2.hashed = [1, 2, 3, 4, 5, 6, 7] ∧
    (readFull 7 (startHash demo)).2.allocs = [7, 7, 4] ∧ (readFull 7 (startHash demo)).2.pos = 7 := by decide +kernel
/-- A 20-byte read with an empty buffer: while ≥ 16 bytes are wanted `Read` goes straight to the source (3, then 5
bytes); the last 12 come through the buffer, which takes 16 of the 19-byte chunk and splits it. -/
example : (readFull 20 demo).2.parts = [3, 5, 12] ∧ (readFull 20 demo).2.buf = [21, 22, 23, 24] ∧
    (readFull 20 demo).2.src = [[25, 26, 27]] ∧ (readFull 20 demo).2.srcReads = 3 := by decide +kernel
/-- Reading past the end: "end of file", everything consumed, position = total length. -/
example : (readFull 28 demo).1 = .err .eof ∧ (readFull 28 demo).2.pos = 27 ∧ flat (readFull 28 demo).2 = [] := by
  decide +kernel
/-- A peek across the first two chunks fills the buffer with two underlying reads and consumes nothing. -/
example : (peekExpected 2 4 demo).1 = .ok [5, 6] ∧ (peekExpected 2 4 demo).2.srcReads = 2 ∧
    abs (peekExpected 2 4 demo).2 = abs demo := by decide +kernel
/-- Discard across a chunk boundary, then the peek sees the continuation. -/
example : (Chunk.discard 10 demo).1 = .ok () ∧ (Chunk.discard 10 demo).2.pos = 10 ∧
    (peekExpected 3 0 (Chunk.discard 10 demo).2).1 = .ok [11, 12, 13] := by decide +kernel
/-- The corner outside the envelope is real: peek 17 > 16 bytes at the end of input → `ErrBufferFull` with `io.EOF`
left pending, and then a zero-byte read fails with "end of file" (and the one after it succeeds). -/
example :
    let s1 := (Chunk.discard 27 demo).2
    let s2 := (peekExpected 17 0 s1).2
    (peekExpected 17 0 s1).1 = .err .bufferFull ∧ Pending s2 ∧ (readFull 0 s2).1 = .err .eof ∧
    (readFull 0 (readFull 0 s2).2).1 = .ok [] ∧ (readFull 0 s1).1 = .ok [] := by decide +kernel

end Crv.Props.C06.Chunk
