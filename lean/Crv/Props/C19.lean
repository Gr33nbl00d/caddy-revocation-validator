import Crv.Proofs.ConfigClosed
import Crv.Props.C03  -- nothing below uses it: it puts C03's obligations (`parseMode`, the source fingerprints) under this property's check
/-!
C19 — Configuration faithfulness: Caddyfile = JSON, documented defaults, nothing ignored.

All statements are about `Crv.Generated.configFacts`, the tables and step lists the translator
regenerates from caddyfile.go / configparser.go / revocation.go / config/config.go on every run,
interpreted by `Crv.Config`. `Env` (time.ParseDuration, os.Stat, certificate files, acceptability of
the configured CRLs) is universally quantified.
-/
namespace Crv.Props.C19
open Crv Crv.Config Crv.Generated Crv.Config.Closed

/-- **Caddyfile = JSON.** For all settings `c` (any subset of the eleven options, any values valid or not, lists of any
length) and any environment, loading the Caddyfile rendering (`UnmarshalCaddyfile` + `Provision`) and loading the JSON
form (`json.Unmarshal` + `Provision`) end in the same class (ok / error / panic) and, when ok, in the same validator.
`Effective.obs` compares the CRL part only when the mode enables CRL checking: without a `crl_config` JSON leaves
`CRLConfig` nil while the Caddyfile path leaves a default struct; in that situation both fail validation if CRL
checking is on, and nothing reads the struct if it is off (C03 `verify_consulted`, `crlProvisionIfEnabled`). -/
theorem caddyfile_eq_json (env : Env) (c : Cfg) :
    (loadCaddyfile Fx env (renderCaddyfile c)).map (Effective.obs crlEnabled) =
    (loadJSON L env (jsonOf c)).map (Effective.obs crlEnabled) := by
  rw [loadCaddyfile_eq_parse_loadJSON, parse_render, Res.bind_ok, loadJSON_closed, loadJSON_closed]
  have ho : ocspPart env (caddyOf c).ocsp = ocspPart env (jsonOf c).ocsp := by
    rcases c with ⟨_, _, _ | o⟩
    · simp [caddyOf, jsonOf, ocspPart, ocspSpec_empty]
    · rfl
  unfold provisionSpec
  rw [ho]
  rcases c with ⟨mode, _ | d, ocsp⟩
  · -- no `crl_config`: the parser's default struct against nil. With CRL checking on both fail validation
    -- (no `work_dir`), with CRL checking off the struct is not observed.
    simp only [caddyOf, jsonOf, Option.map, crlPart, crlSpec_init, Res.map_ok, Res.bind_ok, Res.map_bind]
    refine congrArg _ (funext fun ocspP => congrArg _ (funext fun m => ?_))
    cases hce : crlEnabled m <;> simp [validateSpec, hce, Effective.obs]
  · rfl

private theorem isOk_caddyfile_eq_json (env : Env) (c : Cfg) :
    (loadCaddyfile Fx env (renderCaddyfile c)).isOk = (loadJSON L env (jsonOf c)).isOk := by
  have he := congrArg Res.isOk (caddyfile_eq_json env c)
  rwa [Res.isOk_map, Res.isOk_map] at he

/-! ### Documented defaults, and every given option takes effect -/

theorem loadJSON_ok_iff (env : Env) (raw : RawCfg) (e : Effective) :
    loadJSON L env raw = .ok e ↔ Loaded env raw e := by
  rw [loadJSON_closed, provisionSpec_eq_ok]
  simp

/-- `caddyOf c`: non-nil default structs where `jsonOf c` has nil. -/
theorem loadCaddyfile_ok_iff (env : Env) (c : Cfg) (e : Effective) :
    loadCaddyfile Fx env (renderCaddyfile c) = .ok e ↔ Loaded env (caddyOf c) e := by
  rw [loadCaddyfile_eq_parse_loadJSON, parse_render, Res.bind_ok, loadJSON_ok_iff]

/-- **Defaults and effect of the given options** (both syntaxes, via `loadJSON_ok_iff` / `loadCaddyfile_ok_iff`):
in a loaded validator an omitted option (empty string / absent block) has the documented default, a given
one its parsed value; the strict flags are the configured booleans. -/
theorem loaded_documented (env : Env) (raw : RawCfg) (e : Effective) (h : Loaded env raw e) :
    parseMode raw.mode = some e.mode ∧ (raw.mode = "" → e.mode = .preferOCSP) ∧
    (∀ c, raw.crl = some c → ∃ ec, e.crl = some ec ∧
        ec.workDir = c.workDir ∧ ec.urls = c.urls ∧ ec.files = c.files ∧ ec.signers = c.signers ∧
        parseStorageType c.storage = some ec.storage ∧ (c.storage = "" → ec.storage = .disk) ∧
        (c.interval ≠ "" → env.dur c.interval = some ec.intervalNs) ∧
        (c.interval = "" → ec.intervalNs = 30 * 60 * 1000000000) ∧ 0 < ec.intervalNs ∧
        parseSignatureValidationMode c.sigMode = some ec.sigMode ∧ (c.sigMode = "" → ec.sigMode = .verify) ∧
        (c.cdp = none → ec.cdp = some ⟨.actively, false⟩) ∧
        (∀ d, c.cdp = some d → ∃ m, ec.cdp = some ⟨m, d.strict⟩ ∧ parseCRLFetchMode d.fetchMode = some m ∧
          (d.fetchMode = "" → m = .actively))) ∧
    (raw.ocsp = none → e.ocsp = some ⟨0, [], false⟩) ∧
    (∀ o, raw.ocsp = some o → ∃ eo, e.ocsp = some eo ∧ eo.responders = o.responders ∧ eo.aiaStrict = o.aiaStrict ∧
        (o.cacheDuration ≠ "" → env.dur o.cacheDuration = some eo.cacheNs) ∧ (o.cacheDuration = "" → eo.cacheNs = 0)) := by
  -- "omitted ⇒ default": each parser is evaluated at the empty string
  refine ⟨h.mode, fun hm => (Option.some.inj (hm ▸ h.mode :)).symm, fun c hc => ?_, fun hn => (hn ▸ h.ocsp :), fun o ho => ?_⟩
  · obtain ⟨ec, h1, h2⟩ := hc ▸ h.crl
    obtain ⟨a1, a2, a3, a4, a5, a6, a7, a7', _, a9⟩ := of_crlSpec_eq_ok env c ec h2
    refine ⟨ec, h1, a1, a2, a3, a4, a6, fun hs => (Option.some.inj (hs ▸ a6 :)).symm, fun hs => (a7' hs).1, a7,
      crlSpec_interval_pos env c ec h2, a5, fun hs => (Option.some.inj (hs ▸ a5 :)).symm, fun hn => (hn ▸ a9 :),
      fun d hd => ?_⟩
    obtain ⟨m, hm, hcdp⟩ := hd ▸ a9
    exact ⟨m, hcdp, hm, fun hs => (Option.some.inj (hs ▸ hm :)).symm⟩
  · obtain ⟨eo, h1, h2⟩ := ho ▸ h.ocsp
    obtain ⟨a1, a2, a3, a3', _⟩ := of_ocspSpec_eq_ok env o eo h2
    exact ⟨eo, h1, a1, a2, a3', a3⟩

/-! ### Invalid values are rejected (never ignored) -/

/-- JSON: an invalid value anywhere makes `Provision` fail. -/
theorem invalid_value_rejected_json (env : Env) (raw : RawCfg) (hi : InvalidValue env raw) :
    ¬ (loadJSON L env raw).isOk := by
  rw [Res.isOk_iff]
  rintro ⟨e, he⟩
  exact invalid_not_loaded env raw e hi ((loadJSON_ok_iff env raw e).mp he)

/-- Caddyfile: the same settings are rejected as well. -/
theorem invalid_value_rejected_caddyfile (env : Env) (c : Cfg) (hi : InvalidValue env (jsonOf c)) :
    ¬ (loadCaddyfile Fx env (renderCaddyfile c)).isOk :=
  isOk_caddyfile_eq_json env c ▸ invalid_value_rejected_json env _ hi

/-! The enum parsers accept exactly the documented strings (`parseMode`: C03 `parseMode_unknown_rejected`). -/

theorem sigmode_unknown_rejected (s : String) (h : s ∉ ["", "none", "verify_log", "verify"]) :
    parseSignatureValidationMode s = none := by
  simp only [List.mem_cons, List.not_mem_nil, or_false, not_or] at h
  obtain ⟨h0, h1, h2, h3⟩ := h
  -- h1… are used: `simp` discharges the side conditions `s ≠ "none"`, … of the match's default equation from the context
  unfold parseSignatureValidationMode
  simp only [(length_pos_iff_ne_empty s).mpr h0, ↓reduceIte]

theorem storage_unknown_rejected (s : String) (h : s ∉ ["", "memory", "disk"]) : parseStorageType s = none := by
  simp only [List.mem_cons, List.not_mem_nil, or_false, not_or] at h
  obtain ⟨h0, h1, h2⟩ := h
  unfold parseStorageType
  simp only [(length_pos_iff_ne_empty s).mpr h0, ↓reduceIte]

theorem fetchmode_unknown_rejected (s : String) (h : s ∉ ["", "fetch_actively", "fetch_background"]) :
    parseCRLFetchMode s = none := by
  simp only [List.mem_cons, List.not_mem_nil, or_false, not_or] at h
  obtain ⟨h0, h1, h2⟩ := h
  unfold parseCRLFetchMode
  simp only [(length_pos_iff_ne_empty s).mpr h0, ↓reduceIte]

theorem enum_values_documented :
    parseSignatureValidationMode "" = some .verify ∧ parseSignatureValidationMode "none" = some .none ∧
    parseSignatureValidationMode "verify_log" = some .verifyLog ∧ parseSignatureValidationMode "verify" = some .verify ∧
    parseStorageType "" = some .disk ∧ parseStorageType "memory" = some .memory ∧ parseStorageType "disk" = some .disk ∧
    parseCRLFetchMode "" = some .actively ∧ parseCRLFetchMode "fetch_actively" = some .actively ∧
    parseCRLFetchMode "fetch_background" = some .background := by decide +kernel

/-! ### Unknown option names are rejected at every block level -/

/-- Top level: a line whose key is none of `mode`, `crl_config`, `ocsp_config` — whatever its arguments or block,
wherever it stands — makes `UnmarshalCaddyfile` fail. -/
theorem unknown_key_rejected_top (env : Env) (pre post : List Tok) (key : String) (args : List String)
    (blk : Option (List Tok)) (h : key ∉ ["mode", "crl_config", "ocsp_config"]) :
    ¬ (loadCaddyfile Fx env (pre ++ .entry key args blk :: post)).isOk :=
  load_not_ok_of_parse Fx env _ (parseBlock_unknown_not_ok K.top _ rfl h)

theorem unknown_key_rejected_crl (env : Env) (pre post pre' post' : List Tok) (key : String) (args : List String)
    (blk : Option (List Tok))
    (h : key ∉ ["work_dir", "cdp_config", "storage_type", "update_interval", "signature_validation_mode", "crl_url",
      "crl_file", "trusted_signature_cert_file"]) :
    ¬ (loadCaddyfile Fx env (pre ++ .entry "crl_config" [] (some (pre' ++ .entry key args blk :: post')) :: post)).isOk :=
  load_not_ok_of_parse Fx env _ (parseBlock_sub_not_ok K.top _ key_crl_config
    (Res.not_isOk_map _ _ (parseBlock_unknown_not_ok K.crl _ rfl h)))

theorem unknown_key_rejected_cdp (env : Env) (pre post pre' post' pre'' post'' : List Tok) (key : String)
    (args : List String) (blk : Option (List Tok)) (h : key ∉ ["crl_fetch_mode", "crl_cdp_strict"]) :
    ¬ (loadCaddyfile Fx env (pre ++ .entry "crl_config" []
        (some (pre' ++ .entry "cdp_config" [] (some (pre'' ++ .entry key args blk :: post'')) :: post')) :: post)).isOk :=
  load_not_ok_of_parse Fx env _ (parseBlock_sub_not_ok K.top _ key_crl_config
    (Res.not_isOk_map _ _ (parseBlock_sub_not_ok K.crl _ key_cdp_config
      (Res.not_isOk_map _ _ (parseBlock_unknown_not_ok K.cdp _ rfl h)))))

theorem unknown_key_rejected_ocsp (env : Env) (pre post pre' post' : List Tok) (key : String) (args : List String)
    (blk : Option (List Tok))
    (h : key ∉ ["default_cache_duration", "trusted_responder_cert_file", "ocsp_aia_strict"]) :
    ¬ (loadCaddyfile Fx env (pre ++ .entry "ocsp_config" [] (some (pre' ++ .entry key args blk :: post')) :: post)).isOk :=
  load_not_ok_of_parse Fx env _ (parseBlock_sub_not_ok K.top _ key_ocsp_config
    (Res.not_isOk_map _ _ (parseBlock_unknown_not_ok K.ocsp _ rfl h)))

/-- The key tables are the documented directive names, and the JSON member names the documented ones. -/
theorem names_documented :
    K.top.keys.map Prod.fst = ["mode", "crl_config", "ocsp_config"] ∧
    K.crl.keys.map Prod.fst = ["work_dir", "cdp_config", "storage_type", "update_interval", "signature_validation_mode",
      "crl_url", "crl_file", "trusted_signature_cert_file"] ∧
    K.cdp.keys.map Prod.fst = ["crl_fetch_mode", "crl_cdp_strict"] ∧
    K.ocsp.keys.map Prod.fst = ["default_cache_duration", "trusted_responder_cert_file", "ocsp_aia_strict"] ∧
    jsonTop.map Prod.snd = ["mode", "crl_config", "ocsp_config"] ∧
    jsonCrl.map Prod.snd = ["work_dir", "cdp_config", "storage_type", "update_interval", "signature_validation_mode",
      "crl_urls", "crl_files", "trusted_signature_certs_files"] ∧
    jsonCdp.map Prod.snd = ["crl_fetch_mode", "crl_cdp_strict"] ∧
    jsonOcsp.map Prod.snd = ["default_cache_duration", "trusted_responder_certs_files", "ocsp_aia_strict"] :=
  ⟨rfl, rfl, rfl, rfl, rfl, rfl, rfl, rfl⟩

/-! ### Boolean options: exactly the spellings of strconv.ParseBool, parsed to their value -/

theorem parseBoolGo_true_iff (s : String) :
    parseBoolGo s = some true ↔ s ∈ ["1", "t", "T", "TRUE", "true", "True"] := by
  simp only [List.mem_cons, List.not_mem_nil, or_false]
  fun_cases parseBoolGo s <;> simp [*]

theorem parseBoolGo_false_iff (s : String) :
    parseBoolGo s = some false ↔ s ∈ ["0", "f", "F", "FALSE", "false", "False"] := by
  simp only [List.mem_cons, List.not_mem_nil, or_false]
  fun_cases parseBoolGo s
  · -- no spelling of `true` is one of `false`
    rename_i h
    rcases h with rfl | rfl | rfl | rfl | rfl | rfl <;> simp
  all_goals simp [*]

/-- `crl_cdp_strict <v>` / `ocsp_aia_strict <v>`: the flag becomes what `strconv.ParseBool` makes of `v`;
any other spelling is an error (not `false`). -/
theorem strict_flags_parsed (v : String) :
    parseBlock K.cdp cdpSetters [line "crl_cdp_strict" v] {} =
      (match parseBoolGo v with | some b => .ok { strict := b } | none => .error) ∧
    parseBlock K.ocsp ocspSetters [line "ocsp_aia_strict" v] {} =
      (match parseBoolGo v with | some b => .ok { aiaStrict := b } | none => .error) := by
  constructor
  · rw [parseBlock_cons, procEntry_line_bool _ _ key_crl_cdp_strict]
    cases parseBoolGo v <;> rfl
  · rw [parseBlock_cons, procEntry_line_bool _ _ key_ocsp_aia_strict]
    cases parseBoolGo v <;> rfl

/-! ### Order of the lines inside `crl_config` -/

/-- **Order independence**: two adjacent lines of `crl_config` for different scalar/list options can be swapped,
anywhere in the block, without changing the result (in particular not which of them "wins"). -/
theorem crl_lines_commute (pre post : List Tok) (k1 k2 v1 v2 : String) (a1 a2 : Act CrlField)
    (h1 : crlLeaf k1 = some a1) (h2 : crlLeaf k2 = some a2) (hk : k1 ≠ k2) (s : RawCrl) :
    parseBlock K.crl (crlSetters K) (pre ++ line k1 v1 :: line k2 v2 :: post) s =
    parseBlock K.crl (crlSetters K) (pre ++ line k2 v2 :: line k1 v1 :: post) s := by
  refine parseBlock_swap _ _ pre post _ _ s fun s => ?_
  rw [procEntry_leaf h1, procEntry_leaf h2, Res.bind_ok, Res.bind_ok, procEntry_leaf h1, procEntry_leaf h2,
    applyLeaf_comm a1 a2 (crl_keys_distinct_fields k1 k2 a1 a2 h1 h2 hk)]

/-- A repeated scalar option: the later line wins. -/
theorem crl_scalar_last_wins (k : String) (f : CrlField) (h : lookupKey k K.crl.keys = some (.str f))
    (v1 v2 : String) (rest : List Tok) (s : RawCrl) :
    parseBlock K.crl (crlSetters K) (line k v1 :: line k v2 :: rest) s =
    parseBlock K.crl (crlSetters K) (line k v2 :: rest) s := by
  simp only [parseBlock_cons, procEntry_line_str K.crl _ h, Res.bind_ok]
  congr 1
  cases f <;> rfl

/-- Repeated list options accumulate in the order written. -/
theorem crl_urls_append_in_order (l : List String) (s : RawCrl) :
    parseBlock K.crl (crlSetters K) (l.map (line "crl_url")) s = .ok { s with urls := s.urls ++ l } := by
  rw [← List.append_nil (l.map _), parseBlock_lines_append _ _ key_crl_url, foldl_crl_append]
  rfl

/-! ### `Provision` succeeds on every valid combination and never panics -/

/-- **Every valid combination provisions** (JSON): the mode string is a documented one, every given value is valid
(`ValidCrl`: enum strings, a parsable and positive update interval, readable signer certificates; `ValidOcsp`), and —
when the mode enables CRL checking — there is a `crl_config` whose `work_dir` exists and whose configured CRLs are
acceptable. No further hypothesis: in particular no combination of valid values panics. -/
theorem provision_ok (env : Env) (raw : RawCfg) (m : Mode) (hm : parseMode raw.mode = some m)
    (hcrl : ∀ c, raw.crl = some c → ValidCrl env c) (hocsp : ∀ o, raw.ocsp = some o → ValidOcsp env o)
    (hready : crlEnabled m = true → CrlReady env raw) : (loadJSON L env raw).isOk := by
  rw [Res.isOk_iff]
  have hC : ∃ crlP, crlPart env raw.crl = .ok crlP := by
    rcases hr : raw.crl with _ | c
    · exact ⟨none, rfl⟩
    · obtain ⟨ec, hec⟩ := crlSpec_ok_of_valid env c (hcrl c hr)
      exact ⟨some ec, by simp [crlPart, hec]⟩
  have hO : ∃ ocspP, ocspPart env raw.ocsp = .ok ocspP := by
    rcases hr : raw.ocsp with _ | o
    · exact ⟨_, rfl⟩
    · obtain ⟨eo, heo⟩ := ocspSpec_ok_of_valid env o (hocsp o hr)
      exact ⟨some eo, by simp [ocspPart, heo]⟩
  obtain ⟨crlP, hCP⟩ := hC
  obtain ⟨ocspP, hOP⟩ := hO
  rw [crlPart_eq_ok] at hCP
  refine ⟨⟨m, crlP, ocspP⟩, (loadJSON_ok_iff env raw _).mpr ⟨hm, hCP, (ocspPart_eq_ok ..).mp hOP, ?_, ?_⟩⟩
  · intro hce
    obtain ⟨c, h1, h2, h3, _, _⟩ := hready hce
    exact ⟨c, h1, h2, h3⟩
  · intro hce ec hec
    obtain ⟨c, h1, _, _, h4, h5⟩ := hready hce
    simp only at hec
    rw [h1] at hCP
    obtain ⟨ec', h6, h7⟩ := hCP
    rw [hec] at h6
    cases h6
    obtain ⟨_, a2, a3, _⟩ := of_crlSpec_eq_ok env c ec h7
    exact ⟨a2 ▸ h4, a3 ▸ h5, crlSpec_interval_pos env c ec h7⟩

/-- The same for the Caddyfile form of the settings. -/
theorem provision_ok_caddyfile (env : Env) (c : Cfg) (m : Mode) (hm : parseMode (jsonOf c).mode = some m)
    (hcrl : ∀ k, (jsonOf c).crl = some k → ValidCrl env k) (hocsp : ∀ o, (jsonOf c).ocsp = some o → ValidOcsp env o)
    (hready : crlEnabled m = true → CrlReady env (jsonOf c)) :
    (loadCaddyfile Fx env (renderCaddyfile c)).isOk :=
  isOk_caddyfile_eq_json env c ▸ provision_ok env (jsonOf c) m hm hcrl hocsp hready

/-- Never a panic: whatever the settings and the environment, loading ends in a validator or in an error, in both
syntaxes (the only panic of the model, `time.NewTicker` on a non-positive interval, is unreachable because
parseUpdateInterval rejects such intervals and the default is positive). -/
theorem load_never_panics (env : Env) (c : Cfg) :
    loadJSON L env (jsonOf c) ≠ .panic ∧ loadCaddyfile Fx env (renderCaddyfile c) ≠ .panic := by
  have hj (raw : RawCfg) : loadJSON L env raw ≠ .panic :=
    loadJSON_closed env raw ▸ provisionSpec_ne_panic env raw true fun _ _ _ => rfl
  exact ⟨hj _, by rw [loadCaddyfile_eq_parse_loadJSON, parse_render]; exact hj _⟩

theorem nonpositive_interval_rejected :
    let env : Env := { path := fun p => if p = "/w" then .dir else .missing,
                       dur := fun s => if s = "0s" then some 0 else if s = "-5m" then some (-300000000000) else none,
                       certOk := fun _ => false, crlOk := fun _ => false }
    let c (iv : String) : Cfg := { crl := some { workDir := some "/w", interval := some iv } }
    (∀ iv, iv = "0s" ∨ iv = "-5m" →
      InvalidValue env (jsonOf (c iv)) ∧
      loadJSON L env (jsonOf (c iv)) = .error ∧ loadCaddyfile Fx env (renderCaddyfile (c iv)) = .error) := by
  intro env c iv h
  have hi : InvalidValue env (jsonOf (c iv)) := by
    refine .inr (.inl ⟨_, rfl, .inr (.inr (.inl ⟨?_, fun d hd => ?_⟩))⟩)
    · rcases h with rfl | rfl <;> decide
    · rcases h with rfl | rfl <;> simp [env, jsonOfCrl] at hd <;> omega
  have hp := load_never_panics env (c iv)
  exact ⟨hi, Res.eq_error (invalid_value_rejected_json env _ hi) hp.1,
    Res.eq_error (invalid_value_rejected_caddyfile env _ hi) hp.2⟩

/-! ### Concrete instances (non-vacuity) -/

def envEx : Env :=
  { path := fun p => if p = "/w" then .dir else if p = "/f" then .file else .missing
    dur := fun s => if s = "45m" then some 2700000000000 else if s = "10m" then some 600000000000 else if s = "0s" then some 0 else none
    certOk := fun p => p = "/ca.crt"
    crlOk := fun p => p = "/l.crl" || p = "http://h/l" }

/-- All eleven options set. -/
def cfgEx : Cfg :=
  { mode := some "crl_only"
    crl := some { workDir := some "/w", storage := some "memory", interval := some "45m", sigMode := some "verify_log",
                  urls := ["http://h/l"], files := ["/l.crl", "/l.crl"], signers := ["/ca.crt"],
                  cdp := some { fetchMode := some "fetch_background", strict := some true } }
    ocsp := some { cacheDuration := some "10m", responders := ["/ca.crt"], aiaStrict := some true } }

def effEx : Effective :=
  { mode := .crlOnly
    crl := some { workDir := "/w", storage := .memory, intervalNs := 2700000000000, sigMode := .verifyLog,
                  urls := ["http://h/l"], files := ["/l.crl", "/l.crl"], signers := ["/ca.crt"],
                  cdp := some ⟨.background, true⟩ }
    ocsp := some ⟨600000000000, ["/ca.crt"], true⟩ }

theorem example_all_options :
    loadCaddyfile Fx envEx (renderCaddyfile cfgEx) = .ok effEx ∧ loadJSON L envEx (jsonOf cfgEx) = .ok effEx := by
  have hj : loadJSON L envEx (jsonOf cfgEx) = .ok effEx := by decide +kernel
  -- every block is given, so the Caddyfile parser builds the very structs of the JSON form
  have hc : caddyOf cfgEx = jsonOf cfgEx := rfl
  exact ⟨by rw [loadCaddyfile_eq_parse_loadJSON, parse_render, Res.bind_ok, hc, hj], hj⟩

/-- **Documented defaults**: only `work_dir` given ⇒ prefer_ocsp, disk, 30 minutes, verify, fetch_actively, non-strict, cache 0. -/
theorem defaults_minimal :
    let c : Cfg := { crl := some { workDir := some "/w" } }
    let e : Effective :=
      { mode := .preferOCSP
        crl := some { workDir := "/w", storage := .disk, intervalNs := 30 * 60 * 1000000000, sigMode := .verify,
                      urls := [], files := [], signers := [], cdp := some ⟨.actively, false⟩ }
        ocsp := some ⟨0, [], false⟩ }
    loadCaddyfile Fx envEx (renderCaddyfile c) = .ok e ∧ loadJSON L envEx (jsonOf c) = .ok e := by decide +kernel

-- `caddyfile_eq_json` where the raw validators differ (no crl_config, CRL checking off): JSON leaves CRLConfig nil,
-- the Caddyfile path a default struct; the observable parts agree.
example : loadJSON L envEx (jsonOf { mode := some "ocsp_only" }) = .ok ⟨.ocspOnly, none, some ⟨0, [], false⟩⟩ := by decide +kernel
example : loadCaddyfile Fx envEx (renderCaddyfile { mode := some "ocsp_only" }) = .ok ⟨.ocspOnly, some initCrlEff, some ⟨0, [], false⟩⟩ := by decide +kernel
example : (loadCaddyfile Fx envEx (renderCaddyfile { mode := some "ocsp_only" })).map (Effective.obs crlEnabled) =
    .ok ⟨.ocspOnly, none, some ⟨0, [], false⟩⟩ := by decide +kernel
-- no work_dir with CRL checking on: both fail
example : loadJSON L envEx (jsonOf {}) = .error ∧ loadCaddyfile Fx envEx (renderCaddyfile {}) = .error := by decide +kernel
example : Loaded envEx (jsonOf cfgEx) effEx := (loadJSON_ok_iff _ _ _).mp example_all_options.2
example : loadCaddyfile Fx envEx [line "mod" "crl_only", .entry "crl_config" [] (some [line "work_dir" "/w"])] = .error := by decide +kernel
example : loadCaddyfile Fx envEx [.entry "crl_config" [] (some [line "work_dir" "/w", line "crl_urls" "http://h/l"])] = .error := by decide +kernel
example : loadCaddyfile Fx envEx [.entry "crl_config" [] (some [line "work_dir" "/w",
    .entry "cdp_config" [] (some [line "crl_cdp_strikt" "true"])])] = .error := by decide +kernel
example : loadCaddyfile Fx envEx [.entry "crl_config" [] (some [line "work_dir" "/w"]),
    .entry "ocsp_config" [] (some [line "ocsp_aia_strikt" "true"])] = .error := by decide +kernel
example : InvalidValue envEx (jsonOf { cfgEx with mode := some "CRL_ONLY" }) := .inl (by decide +kernel)
example : loadJSON L envEx (jsonOf { cfgEx with mode := some "CRL_ONLY" }) = .error := by decide +kernel
example : loadCaddyfile Fx envEx [.entry "crl_config" [] (some [line "work_dir" "/w", line "storage_type" "Disk"])] = .error := by decide +kernel
example : parseBoolGo "T" = some true ∧ parseBoolGo "0" = some false ∧ parseBoolGo "yes" = none ∧ parseBoolGo "tRuE" = none := by decide +kernel
example : (loadCaddyfile Fx envEx [.entry "crl_config" [] (some [line "work_dir" "/w"]),
    .entry "ocsp_config" [] (some [line "ocsp_aia_strict" "TRUE"])]).map (fun e => e.ocsp.map (·.aiaStrict)) = .ok (some true) := by decide +kernel
example : crlLeaf "work_dir" = some (.str .workDir) ∧ crlLeaf "crl_url" = some (.append .urls) ∧ crlLeaf "cdp_config" = none := by decide +kernel
-- dispenser quirk carried by the model: the rest of a line are further keys
example : parseBlock K.crl (crlSetters K) [.entry "work_dir" ["/w", "storage_type", "memory"] none] {} =
    .ok { workDir := "/w", storage := "memory" } := by decide +kernel

end Crv.Props.C19
