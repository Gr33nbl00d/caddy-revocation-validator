import Crv.Proofs.Loader
/-!
C10 (loader layer) — what stands between "a certificate names distribution points" and "a CRL for them is in force":
`utils.Retry`, `CreatePreferredCrlLoader` and `MultiSchemesCRLLoader.LoadCRL` (`Crv/Loader.lean`).

* retry: the fetch function is called at least once and at most `max attempts 1` times, the call succeeds exactly when
  one of these calls would, it stops at the first success and a failure has used every call;
* factory: url before file before distribution points; of the distribution points exactly those whose first four bytes
  are `http` in any ASCII case are kept, in order; nothing usable ⇔ error (the "unsupported location" of
  `Crv.Props.C10.strict_unsupported_denied`, e.g. only `ldap://` distribution points);
* multi loader: per `LoadCRL` call every loader is called at most once, the last successful one first, the call fails
  only after *every* loader has failed in this call, and no history of earlier calls can make the loader give up on a
  distribution point that answers now (`no_blacklisting`);
* histories of calls: `lastSuccessfulLoader` is nil exactly when no loader has answered in any call so far
  (`never_answered_iff_nil`), a repeated success through the remembered loader is a single request
  (`repeat_success_single_call`), a fail-over asks the remembered loader first and nobody twice (`failover_asks_last_once`).

The model reads the shape of the Go code from `Crv.Generated.Loader`; `facts_canonical` pins the values the theorems
were proved for, and the proofs (here and in `Crv/Proofs/Loader.lean`) unfold the generated constants they need: another
value breaks them.
-/
namespace Crv.Props.C10.Loader
open Crv.Loader Crv.Generated.Loader

/-- The extracted shape of the loader sources is the one the statements below are about. -/
theorem facts_canonical :
    retryCount = 5 ∧ retryCallsBeforeTest = true ∧ retryBoundIsAttemptsMinusOne = true ∧
    urlLoaderRetries = true ∧ fileLoaderRetries = true ∧
    factoryOrder = ["url", "file", "cdp"] ∧ cdpPrefix = "http" ∧ cdpPrefixLowered = true ∧
    factoryEmptyIsError = true ∧
    multiTriesLastSuccessfulFirst = true ∧ multiSkipsLastSuccessfulInLoop = true ∧
    multiRemembersSuccess = true ∧ multiAllFailedIsError = true :=
  ⟨rfl, rfl, rfl, rfl, rfl, rfl, rfl, rfl, rfl, rfl, rfl, rfl, rfl⟩

/-! ### `utils.Retry` -/

/-- The function is called at least once, whatever `attempts` is (0 and negative included). -/
theorem retry_at_least_one_call (a : Int) (out : Nat → Bool) : 1 ≤ (retry a out).2 := by
  rw [retry_eq]
  split
  · exact Nat.succ_pos _
  · exact retryBound_eq a ▸ Nat.succ_pos _

/-- The function is called at most `max attempts 1` times. -/
theorem retry_calls_le (a : Int) (out : Nat → Bool) : (retry a out).2 ≤ (max a 1).toNat := by
  rw [retry_eq]
  split
  next h => exact (find?_range_some.1 h).2.1
  · exact Nat.le_refl _

/-- If the call succeeds, the last call of the function succeeded and every earlier one failed: the number of calls is
the index of the first success plus one. -/
theorem retry_stops_at_first_success (a : Int) (out : Nat → Bool) (h : (retry a out).1 = true) :
    out ((retry a out).2 - 1) = true ∧ ∀ k, k < (retry a out).2 - 1 → out k = false := by
  rw [retry_eq] at h ⊢
  split at h
  next hk => exact ⟨(find?_range_some.1 hk).1, (find?_range_some.1 hk).2.2⟩
  · cases h

/-- A failing call has used every call: exactly `max attempts 1` calls, all of them failures. -/
theorem retry_fail_calls_all (a : Int) (out : Nat → Bool) (h : (retry a out).1 = false) :
    (retry a out).2 = (max a 1).toNat ∧ ∀ k, k < (max a 1).toNat → out k = false := by
  rw [retry_eq] at h ⊢
  split at h
  · cases h
  next hk => exact ⟨rfl, find?_range_none.1 hk⟩

/-- The call succeeds exactly when one of the first `max attempts 1` calls of the function would succeed. -/
theorem retry_ok_iff (a : Int) (out : Nat → Bool) :
    (retry a out).1 = true ↔ ∃ k, k < (max a 1).toNat ∧ out k = true := by
  rw [retry_eq]
  split
  next k hk => exact ⟨fun _ => ⟨k, (find?_range_some.1 hk).2.1, (find?_range_some.1 hk).1⟩, fun _ => rfl⟩
  next hk => exact ⟨nofun, fun ⟨k, hlt, hok⟩ => by rw [find?_range_none.1 hk k hlt] at hok; cases hok⟩

/-- `utils.Retry` looks at nothing but the first `max attempts 1` calls: two fetch functions that behave alike on these
calls give the same result and the same number of calls. -/
theorem retry_depends_on_prefix (a : Int) (o1 o2 : Nat → Bool)
    (h : ∀ k, k < (max a 1).toNat → o1 k = o2 k) : retry a o1 = retry a o2 := by
  rw [retry_eq, retry_eq, find?_congr fun k hk => h k (List.mem_range.1 hk)]

/-- More attempts never hurt and change nothing once the call succeeds: a call that succeeds with `a` attempts succeeds with
every `b ≥ a`, after the same number of calls of the fetch function. -/
theorem retry_more_attempts (a b : Int) (out : Nat → Bool) (hab : a ≤ b) (h : (retry a out).1 = true) :
    (retry b out).1 = true ∧ (retry b out).2 = (retry a out).2 := by
  rw [retry_eq_of_le a b out hab h]; exact ⟨h, rfl⟩

/-- The loaders' own retry (`CRLLoaderRetryCount`): between one and five calls, success iff one of five would succeed. -/
theorem loader_retry_five (out : Nat → Bool) :
    1 ≤ (loaderRetry out).2 ∧ (loaderRetry out).2 ≤ 5 ∧
    ((loaderRetry out).1 = true ↔ ∃ k, k < 5 ∧ out k = true) :=
  -- the bound `(max ↑retryCount 1).toNat` evaluates to 5
  ⟨retry_at_least_one_call _ out, retry_calls_le (Int.ofNat retryCount) out, retry_ok_iff (Int.ofNat retryCount) out⟩

/-! ### `CreatePreferredCrlLoader` -/

/-- A configured URL wins over everything else. -/
theorem create_url_first (l : Locs) (h : l.url ≠ []) : create l = .url l.url := by
  rw [create_eq]; simp [h]

/-- Without URL, a configured file wins over the distribution points. -/
theorem create_file_second (l : Locs) (hu : l.url = []) (h : l.file ≠ []) : create l = .file l.file := by
  rw [create_eq]; simp [hu, h]

/-- The multi loader is built exactly when neither URL nor file is given and some distribution point is `http…`;
its loaders are then exactly the `http…` distribution points, in the order of the certificate. -/
theorem create_cdp_keeps_order (l : Locs) (us : List (List UInt8)) :
    create l = .multi us ↔ l.url = [] ∧ l.file = [] ∧ us = l.cdps.filter httpPrefixed ∧ us ≠ [] := by
  rw [create_eq]
  by_cases hu : l.url = []
  · by_cases hf : l.file = []
    · by_cases hc : l.cdps.filter httpPrefixed = []
      · simp [hu, hf, hc]
      · simp only [hu, hf, hc, ne_eq, not_true_eq_false, ↓reduceIte, Created.multi.injEq, true_and]
        exact ⟨fun h => h ▸ ⟨rfl, hc⟩, fun h => h.1.symm⟩
    · simp [hu, hf]
  · simp [hu]

/-- Every loader of the multi loader is for an `http…` location that is one of the certificate's distribution points. -/
theorem create_cdp_only_http (l : Locs) (us : List (List UInt8)) (h : create l = .multi us) :
    ∀ u ∈ us, httpPrefixed u = true ∧ u ∈ l.cdps := by
  obtain ⟨-, -, hus, -⟩ := (create_cdp_keeps_order l us).mp h
  intro u hu
  rw [hus, List.mem_filter] at hu
  exact ⟨hu.2, hu.1⟩

/-- The factory fails exactly when there is nothing it can use: no URL, no file, no `http…` distribution point. -/
theorem create_no_usable_is_error (l : Locs) :
    create l = .error ↔ l.url = [] ∧ l.file = [] ∧ ∀ c ∈ l.cdps, httpPrefixed c = false := by
  have key : l.cdps.filter httpPrefixed = [] ↔ ∀ c ∈ l.cdps, httpPrefixed c = false := by
    simp [List.filter_eq_nil_iff]
  rw [create_eq, ← key]
  by_cases hu : l.url = []
  · by_cases hf : l.file = []
    · by_cases hc : l.cdps.filter httpPrefixed = [] <;> simp [hu, hf, hc]
    · simp [hu, hf]
  · simp [hu]

/-- The `http` test looks at the first four bytes only and ignores their ASCII case. -/
theorem http_case_insensitive (s : List UInt8) :
    httpPrefixed s = true ↔ ∃ a b c d rest, s = a :: b :: c :: d :: rest ∧
      (a = 0x68 ∨ a = 0x48) ∧ (b = 0x74 ∨ b = 0x54) ∧ (c = 0x74 ∨ c = 0x54) ∧ (d = 0x70 ∨ d = 0x50) := by
  unfold httpPrefixed
  rw [prefixBytes_eq]
  simp only [cdpPrefixLowered, ↓reduceIte, List.isPrefixOf_iff_prefix]
  constructor
  · rintro ⟨t, ht⟩
    obtain ⟨a, s, rfl, ha, ht⟩ := List.map_eq_cons_iff.1 ht.symm
    obtain ⟨b, s, rfl, hb, ht⟩ := List.map_eq_cons_iff.1 ht
    obtain ⟨c, s, rfl, hc, ht⟩ := List.map_eq_cons_iff.1 ht
    obtain ⟨d, s, rfl, hd, -⟩ := List.map_eq_cons_iff.1 ht
    exact ⟨a, b, c, d, s, rfl, (lowerByte_h a).1 ha, (lowerByte_t b).1 hb, (lowerByte_t c).1 hc, (lowerByte_p d).1 hd⟩
  · rintro ⟨a, b, c, d, rest, rfl, ha, hb, hc, hd⟩
    refine ⟨rest.map lowerByte, ?_⟩
    rw [List.map_cons, List.map_cons, List.map_cons, List.map_cons, (lowerByte_h a).2 ha, (lowerByte_t b).2 hb,
      (lowerByte_t c).2 hc, (lowerByte_p d).2 hd]
    rfl

/-- Only `ldap://…` distribution points (and neither URL nor file): no loader, the location is unsupported. -/
theorem ldap_only_is_error (cdps : List (List UInt8))
    (h : ∀ c ∈ cdps, ∃ rest, c = [0x6c, 0x64, 0x61, 0x70, 0x3a, 0x2f, 0x2f] ++ rest) :
    create { url := [], file := [], cdps := cdps } = .error := by
  refine (create_no_usable_is_error _).2 ⟨rfl, rfl, fun c hc => Bool.eq_false_iff.2 fun hp => ?_⟩
  obtain ⟨rest, rfl⟩ := h c hc
  obtain ⟨a, _, _, _, _, heq, ha, -⟩ := (http_case_insensitive _).1 hp
  cases heq
  revert ha; decide

/-! ### `MultiSchemesCRLLoader.LoadCRL` -/

/-- In one `LoadCRL` call no loader is called twice. -/
theorem load_each_loader_at_most_once (m : Multi) (out : Nat → Bool) : (load m out).2.2.Nodup := by
  rcases load_cases m out with ⟨h, -⟩ | ⟨as, j, hp, -, -, h⟩ <;> rw [h]
  · exact order_nodup m
  · exact (order_nodup m).sublist hp.sublist

/-- Only the loaders `0..n-1` are called. -/
theorem load_trace_in_range (m : Multi) (out : Nat → Bool) (hwf : m.wf = true) :
    ∀ j ∈ (load m out).2.2, j < m.n := by
  rcases load_cases m out with ⟨h, -⟩ | ⟨as, j, hp, -, -, h⟩ <;> rw [h]
  · exact fun _ => (mem_order_of_wf hwf).1
  · exact fun _ hx => (mem_order_of_wf hwf).1 (hp.subset hx)

/-- A call that returns through loader `j`: `j` succeeded in this call, it is the last loader called, and every loader
called before it failed. -/
theorem load_result_succeeds (m : Multi) (out : Nat → Bool) (j : Nat) (h : (load m out).2.1 = some j) :
    out j = true ∧ j ∈ (load m out).2.2 ∧ (load m out).2.2.getLast? = some j ∧
    ∀ x ∈ (load m out).2.2.dropLast, out x = false := by
  rcases load_cases m out with ⟨h', -⟩ | ⟨as, j', -, has, hj, h'⟩ <;> rw [h'] at h ⊢
  · cases h
  · cases h
    exact ⟨hj, List.mem_append_right _ (List.mem_singleton_self j), List.getLast?_concat ..,
      by rwa [List.dropLast_concat]⟩

/-- The last successful loader is asked first; if it answers, nobody else is asked and the state is unchanged. -/
theorem load_prefers_last (m : Multi) (out : Nat → Bool) (l : Nat) (hl : m.last = some l) (ho : out l = true) :
    load m out = (m, some l, [l]) :=
  load_some_ok m out l hl ho

/-- The last successful loader is the first one called, also when it fails. -/
theorem load_tries_last_first (m : Multi) (out : Nat → Bool) (l : Nat) (hl : m.last = some l) :
    (load m out).2.2.head? = some l := by
  cases ho : out l with
  | true => rw [load_some_ok m out l hl ho]; rfl
  | false => rw [load_some_fail m out l hl ho]; rfl

/-- `lastSuccessfulLoader` is the loader that answered; a failed call leaves it alone. The loader list never changes. -/
theorem load_sets_last (m : Multi) (out : Nat → Bool) :
    (∀ j, (load m out).2.1 = some j → (load m out).1.last = some j) ∧
    ((load m out).2.1 = none → (load m out).1.last = m.last) ∧ (load m out).1.n = m.n := by
  rcases load_cases m out with ⟨h, -⟩ | ⟨as, j, -, -, -, h⟩ <;> rw [h]
  · exact ⟨nofun, fun _ => rfl, rfl⟩
  · exact ⟨fun _ => id, nofun, rfl⟩

/-- A call fails only after every loader has been called and has failed in this very call; the order is: the last
successful loader, then the others in list order (so the trace is a permutation of `0..n-1`). -/
theorem load_failure_tries_everyone (m : Multi) (out : Nat → Bool) (h : (load m out).2.1 = none) :
    (∀ j, j < m.n → j ∈ (load m out).2.2) ∧ (∀ j ∈ (load m out).2.2, out j = false) ∧
    (load m out).2.2 = (match m.last with | none => List.range m.n | some l => l :: (List.range m.n).filter (· ≠ l)) ∧
    (m.wf = true → (load m out).2.2.Perm (List.range m.n)) := by
  rcases load_cases m out with ⟨h', hall⟩ | ⟨as, j, -, -, -, h'⟩ <;> rw [h'] at h ⊢
  · refine ⟨fun j hj => mem_order.2 (.inl hj), hall, order_eq m, fun hwf => ?_⟩
    rw [List.perm_ext_iff_of_nodup (order_nodup m) List.nodup_range]
    exact fun a => (mem_order_of_wf hwf).trans List.mem_range.symm
  · cases h

/-- A call succeeds exactly when some loader would answer in this call. -/
theorem load_ok_iff (m : Multi) (out : Nat → Bool) (hwf : m.wf = true) :
    (∃ j, (load m out).2.1 = some j) ↔ ∃ j, j < m.n ∧ out j = true := by
  rcases load_cases m out with ⟨h, hall⟩ | ⟨as, j, hp, -, hj, h⟩ <;> rw [h]
  · exact ⟨nofun, fun ⟨j, hlt, hj⟩ => by rw [hall j ((mem_order_of_wf hwf).2 hlt)] at hj; cases hj⟩
  · exact ⟨fun _ => ⟨j, (mem_order_of_wf hwf).1 (hp.subset (by simp)), hj⟩, fun _ => ⟨j, rfl⟩⟩

/-- The invariant `lastSuccessfulLoader ∈ Loaders ∪ {nil}` is kept by every call. -/
theorem load_keeps_wf (m : Multi) (out : Nat → Bool) (hwf : m.wf = true) : (load m out).1.wf = true :=
  (runCalls_wf m [out] hwf).1  -- `runCalls m [out]` is `(load m out).1` by evaluation

theorem no_blacklisting_from (m : Multi) (hwf : m.wf = true) (hist : List (Nat → Bool)) (out : Nat → Bool) :
    (∃ j, (load (runCalls m hist) out).2.1 = some j) ↔ ∃ j, j < m.n ∧ out j = true := by
  rw [load_ok_iff _ out (runCalls_wf m hist hwf).1, (runCalls_wf m hist hwf).2]

/-- **No blacklisting.** Whatever the outcomes of the earlier `LoadCRL` calls on a loader object built by the factory
(`lastSuccessfulLoader == nil`, `n` loaders), the invariant holds, and the next call succeeds exactly when some loader
would answer in it: no sequence of failures makes the multi loader stop asking a distribution point, and a call in which
some loader would succeed succeeds (through a loader that answers in this call). -/
theorem no_blacklisting (n : Nat) (hist : List (Nat → Bool)) (out : Nat → Bool) :
    (runCalls (fresh n) hist).wf = true ∧ (runCalls (fresh n) hist).n = n ∧
    ((∃ j, (load (runCalls (fresh n) hist) out).2.1 = some j) ↔ ∃ j, j < n ∧ out j = true) ∧
    ((∃ j, j < n ∧ out j = true) →
      ∃ j, (load (runCalls (fresh n) hist) out).2.1 = some j ∧ j < n ∧ out j = true) := by
  have hwf := (runCalls_wf (fresh n) hist rfl).1
  have hn : (runCalls (fresh n) hist).n = n := (runCalls_wf (fresh n) hist rfl).2
  have hiff := no_blacklisting_from (fresh n) rfl hist out
  refine ⟨hwf, hn, hiff, fun hex => ?_⟩
  obtain ⟨j, hj⟩ := hiff.2 hex
  obtain ⟨h1, h2, -⟩ := load_result_succeeds _ out j hj
  exact ⟨j, hj, hn ▸ load_trace_in_range _ out hwf j h2, h1⟩

/-! ### Histories of `LoadCRL` calls -/

/-- One call: `lastSuccessfulLoader` is nil afterwards exactly when it was nil before and no loader answered. -/
theorem load_last_none_iff (m : Multi) (out : Nat → Bool) (hwf : m.wf = true) :
    (load m out).1.last = none ↔ (m.last = none ∧ ∀ j, j < m.n → out j = false) := by
  rcases load_cases m out with ⟨h, hall⟩ | ⟨as, j, hp, -, hj, h⟩ <;> rw [h]
  · exact ⟨fun hl => ⟨hl, fun j hlt => hall j ((mem_order_of_wf hwf).2 hlt)⟩, And.left⟩
  · exact ⟨nofun, fun ⟨_, hall⟩ => by rw [hall j ((mem_order_of_wf hwf).1 (hp.subset (by simp)))] at hj; cases hj⟩

/-- Histories, from any well-formed state: `lastSuccessfulLoader` is nil at the end exactly when it was nil at the start
and in no call of the history any loader answered. -/
theorem runCalls_last_none_iff (m : Multi) (hist : List (Nat → Bool)) (hwf : m.wf = true) :
    (runCalls m hist).last = none ↔ (m.last = none ∧ ∀ o ∈ hist, ∀ j, j < m.n → o j = false) := by
  induction hist generalizing m with
  | nil => simp [runCalls]
  | cons o os ih =>
    rw [runCalls, ih _ (load_keeps_wf m o hwf), load_last_none_iff m o hwf, (load_sets_last m o).2.2,
      List.forall_mem_cons, and_assoc]

/-- **`lastSuccessfulLoader` is nil ⇔ nothing ever answered.** On a loader object built by the factory the field is nil
after a history of calls exactly when no loader answered in any of them: it is set by the first successful call and never
reset, so "no remembered loader" never hides a distribution point that has answered. -/
theorem never_answered_iff_nil (n : Nat) (hist : List (Nat → Bool)) :
    (runCalls (fresh n) hist).last = none ↔ ∀ o ∈ hist, ∀ j, j < n → o j = false :=
  (runCalls_last_none_iff (fresh n) hist rfl).trans ⟨And.right, fun h => ⟨rfl, h⟩⟩

/-- **Steady state: one request per refresh.** After a call that returned through loader `j`, a following call in which
`j` answers again asks `j` and nobody else, returns through `j` and leaves the state as it is — whatever the other
distribution points would do. -/
theorem repeat_success_single_call (m : Multi) (o1 o2 : Nat → Bool) (j : Nat)
    (h1 : (load m o1).2.1 = some j) (h2 : o2 j = true) :
    load (load m o1).1 o2 = ((load m o1).1, some j, [j]) :=
  load_prefers_last _ o2 j ((load_sets_last m o1).1 j h1) h2

/-- **Fail-over costs one extra request.** After a call that returned through `j`, a following call in which `j` fails asks
`j` first and then every other loader at most once, `j` never a second time. -/
theorem failover_asks_last_once (m : Multi) (o1 o2 : Nat → Bool) (j : Nat)
    (h1 : (load m o1).2.1 = some j) :
    (load (load m o1).1 o2).2.2.head? = some j ∧ (load (load m o1).1 o2).2.2.Nodup :=
  ⟨load_tries_last_first _ o2 j ((load_sets_last m o1).1 j h1), load_each_loader_at_most_once _ o2⟩

-- retry: success on the third of five calls; five failures; attempts ≤ 0 is one call
example : retry 5 (fun k => k == 2) = (true, 3) := by decide +kernel
example : retry 5 (fun _ => false) = (false, 5) := by decide +kernel
example : retry 0 (fun _ => false) = (false, 1) := by decide +kernel
example : retry (-3) (fun k => k == 1) = (false, 1) := by decide +kernel
example : loaderRetry (fun k => k == 4) = (true, 5) := by decide +kernel
-- factory: url first, file second, http-only in order, "HtTp" counts, "ldap://x" alone is an error, "htt" is too short
example : create ⟨[0x66], [0x67], [[0x68, 0x74, 0x74, 0x70]]⟩ = .url [0x66] := by decide +kernel
example : create ⟨[], [0x67], [[0x68, 0x74, 0x74, 0x70]]⟩ = .file [0x67] := by decide +kernel
example : create ⟨[], [], [[0x6c, 0x64, 0x61, 0x70, 0x3a, 0x2f, 0x2f, 0x78], [0x48, 0x74, 0x54, 0x70, 0x3a], [0x68, 0x74, 0x74, 0x70]]⟩
    = .multi [[0x48, 0x74, 0x54, 0x70, 0x3a], [0x68, 0x74, 0x74, 0x70]] := by decide +kernel
example : httpPrefixed [0x48, 0x74, 0x54, 0x70, 0x3a, 0x2f, 0x2f, 0x79] = true := by decide +kernel
example : create ⟨[], [], [[0x6c, 0x64, 0x61, 0x70, 0x3a, 0x2f, 0x2f, 0x78]]⟩ = .error := by decide +kernel
example : create ⟨[], [], []⟩ = .error := by decide +kernel
example : httpPrefixed [0x68, 0x74, 0x74] = false := by decide +kernel
-- U+212A (Kelvin sign, lower-cases to `k`) in front of `http`: the test is on the first bytes, nothing is skipped
example : httpPrefixed [0xe2, 0x84, 0xaa, 0x68, 0x74, 0x74, 0x70] = false := by decide +kernel
-- multi loader: first call walks the list, second goes straight to the remembered loader, then it fails and all are asked
example : load (fresh 3) (fun j => j == 1) = (⟨3, some 1⟩, some 1, [0, 1]) := by decide +kernel
example : load ⟨3, some 1⟩ (fun j => j == 1) = (⟨3, some 1⟩, some 1, [1]) := by decide +kernel
example : load ⟨3, some 1⟩ (fun _ => false) = (⟨3, some 1⟩, none, [1, 0, 2]) := by decide +kernel
example : load ⟨3, some 1⟩ (fun j => j == 2) = (⟨3, some 2⟩, some 2, [1, 0, 2]) := by decide +kernel
-- after any number of total failures the next call still finds the loader that answers
example : (load (runCalls (fresh 3) [fun j => j == 1, fun _ => false, fun _ => false, fun _ => false]) (fun j => j == 0)).2
    = (some 0, [1, 0]) := by decide +kernel

-- histories: nil exactly when nothing ever answered; a repeated success is a single call
example : (runCalls (fresh 3) [fun _ => false, fun _ => false]).last = none := by decide +kernel
example : (runCalls (fresh 3) [fun _ => false, fun j => j == 2, fun _ => false]).last = some 2 := by decide +kernel
example : load (load (fresh 3) (fun j => j == 2)).1 (fun j => j == 2 || j == 0) = (⟨3, some 2⟩, some 2, [2]) := by decide +kernel
example : (load (load (fresh 3) (fun j => j == 2)).1 (fun j => j == 0)).2.2 = [2, 0] := by decide +kernel

-- retry: only the first max(attempts,1) calls matter; more attempts keep a success and its call count
example : retry 3 (fun k => k == 1 || k == 7) = retry 3 (fun k => k == 1) := by decide +kernel
example : retry 2 (fun k => k == 1) = (true, 2) ∧ retry 9 (fun k => k == 1) = (true, 2) := by decide +kernel

end Crv.Props.C10.Loader
