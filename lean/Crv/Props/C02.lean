import Crv.Ocsp
import Crv.Proofs.Skeleton
import Crv.Mode
import Crv.Generated.Ocsp
import Crv.Generated.Mode
import Crv.Proofs.OcspLookup
/-!
C02 — OCSP soundness and AIA-strict semantics.

All statements are about `lookup ocspFacts …`, the model of `OCSPRevocationChecker.IsRevoked` interpreted over the facts
the translator regenerates from ocsp/ocsprevocationchecker.go on every run (`Crv.Generated.ocspFacts`), for every
responder list, every candidate list, every responder behaviour (`answer` is an arbitrary function), every cache state
and every instant. "Accepted response" is `Answers` (the fetch succeeded and `parseOcspResponse` accepted the body); that
an accepted response is authentic — and nothing else is — is C05.
-/
namespace Crv.Props.C02
open Crv Crv.Ocsp Crv.Generated

/-- The regenerated facts have the shape the proofs are about (the clock skew constant is left free). If an edit to
/repo changes the loop order, a `continue`, the tail condition, the filter, the cache guard … this is what breaks. -/
theorem facts_canonical : ocspFacts = canon ocspFacts.maxClockSkew := rfl

variable (V : Key → Signed → Bool)

/-- (a) Whichever HTTP responder × issuer candidate pair is the first, in the order the code tries them, to deliver
an accepted response decides the verdict; every pair before it was tried, none after it. In particular a `revoked`
answer yields `revoked`. Holds for every list length and every failure pattern before the answering pair. -/
theorem first_answer_decides (inst : Inst) (cert : Cert) (cands : List Cand) (answer : Str → Cand → Fetch)
    (now : Nat) (T T' : Table) (pre post : List (Str × Cand)) (q : Str × Cand) (p : Parsed)
    (hmiss : tryGet ocspFacts T (mkKey ocspFacts cert) now = (none, T'))
    (hl : httpPairs ocspFacts cert cands = pre ++ q :: post)
    (hpre : ∀ q' ∈ pre, NoAnswer V ocspFacts cert cands answer q'.1 q'.2)
    (hq : Answers V ocspFacts cert cands answer q.1 q.2 p) :
    (lookup ocspFacts V inst cert cands answer now T).result = verdictOf p ∧
    (lookup ocspFacts V inst cert cands answer now T).requests = pre ++ [q] ∧
    (lookup ocspFacts V inst cert cands answer now T).answered = some p := by
  rw [facts_canonical] at *
  have := Ocsp.first_answer_decides V (inst := inst) hmiss hl hpre hq
  exact ⟨this.1, this.2.1, this.2.2.1⟩

/-- (a') An authentic `revoked` from the first answering pair is reported as revoked. -/
theorem first_answer_revoked (inst : Inst) (cert : Cert) (cands : List Cand) (answer : Str → Cand → Fetch)
    (now : Nat) (T T' : Table) (pre post : List (Str × Cand)) (q : Str × Cand) (p : Parsed)
    (hmiss : tryGet ocspFacts T (mkKey ocspFacts cert) now = (none, T'))
    (hl : httpPairs ocspFacts cert cands = pre ++ q :: post)
    (hpre : ∀ q' ∈ pre, NoAnswer V ocspFacts cert cands answer q'.1 q'.2)
    (hq : Answers V ocspFacts cert cands answer q.1 q.2 p) (hrev : p.status = .revoked) :
    (lookup ocspFacts V inst cert cands answer now T).result = .revoked := by
  rw [(first_answer_decides V inst cert cands answer now T T' pre post q p hmiss hl hpre hq).1]
  rw [verdictOf, if_pos hrev]

/-- (a'') A still-valid cache entry decides without any request; a cached `revoked` yields revoked. -/
theorem cache_hit_decides (inst : Inst) (cert : Cert) (cands : List Cand) (answer : Str → Cand → Fetch)
    (now : Nat) (T T' : Table) (rv : Bool)
    (hhit : tryGet ocspFacts T (mkKey ocspFacts cert) now = (some rv, T')) :
    (lookup ocspFacts V inst cert cands answer now T).result = (if rv then .revoked else .good) ∧
    (lookup ocspFacts V inst cert cands answer now T).requests = [] ∧
    (lookup ocspFacts V inst cert cands answer now T).hit = true := by
  rw [facts_canonical] at *
  exact Ocsp.cache_hit_decides V hhit

/-- A revoked OCSP result makes the handshake fail in every mode that enables OCSP (composition with the regenerated
statement list of `VerifyClientCertificate`, as in C03). -/
theorem revoked_rejects (m : Mode) (c : MechOut) (h : ocspEnabled m = true) :
    (verifyProg.run m (envOf .revoked c) true).verdict = .reject := by
  revert h
  cases m <;> cases c <;> decide

/-- (b) Strict: a certificate that names at least one HTTP responder is accepted (any non-error result) only if the
cache or some responder × candidate pair supplied an accepted response. -/
theorem strict_accept_needs_answer (inst : Inst) (cert : Cert) (cands : List Cand) (answer : Str → Cand → Fetch)
    (now : Nat) (T : Table)
    (hstrict : inst.strict = true) (hne : filterHttp ocspFacts cert.servers ≠ [])
    (hok : (lookup ocspFacts V inst cert cands answer now T).result ≠ .error) :
    (lookup ocspFacts V inst cert cands answer now T).hit = true ∨
    ∃ q ∈ httpPairs ocspFacts cert cands, ∃ p, Answers V ocspFacts cert cands answer q.1 q.2 p ∧
      (lookup ocspFacts V inst cert cands answer now T).answered = some p := by
  rw [facts_canonical] at *
  exact Ocsp.strict_accept_needs_answer V _ inst cert cands answer now T hstrict hne hok

/-- (b') Strict and no pair answers and no cache hit: rejected, after every pair was tried exactly once in order. -/
theorem strict_unanswered_is_error (inst : Inst) (cert : Cert) (cands : List Cand) (answer : Str → Cand → Fetch)
    (now : Nat) (T T' : Table)
    (hstrict : inst.strict = true) (hne : filterHttp ocspFacts cert.servers ≠ [])
    (hmiss : tryGet ocspFacts T (mkKey ocspFacts cert) now = (none, T'))
    (hall : ∀ q ∈ httpPairs ocspFacts cert cands, NoAnswer V ocspFacts cert cands answer q.1 q.2) :
    (lookup ocspFacts V inst cert cands answer now T).result = .error ∧
    (lookup ocspFacts V inst cert cands answer now T).requests = httpPairs ocspFacts cert cands := by
  rw [facts_canonical] at *
  rw [Ocsp.lookup_unanswered V hmiss hall, if_pos ⟨hstrict, hne⟩]
  exact ⟨rfl, rfl⟩

/-- (c) Strict off: whatever the responders do (refuse, time out, answer with garbage, with an HTTP error page, with a
response for another certificate, signed by a stranger, …) the result is never an error. -/
theorem nonstrict_never_error (inst : Inst) (cert : Cert) (cands : List Cand) (answer : Str → Cand → Fetch)
    (now : Nat) (T : Table) (hstrict : inst.strict = false) :
    (lookup ocspFacts V inst cert cands answer now T).result ≠ .error := by
  rw [facts_canonical]
  exact Ocsp.nonstrict_never_error V _ inst cert cands answer now T hstrict

/-- Strict on, but the certificate names no HTTP responder (none at all, or only ldap:// etc.): never an error. -/
theorem no_http_responder_never_error (inst : Inst) (cert : Cert) (cands : List Cand) (answer : Str → Cand → Fetch)
    (now : Nat) (T : Table) (hnone : filterHttp ocspFacts cert.servers = []) :
    (lookup ocspFacts V inst cert cands answer now T).result ≠ .error := by
  rw [facts_canonical] at *
  exact Ocsp.no_http_responder_never_error V _ inst cert cands answer now T hnone

/-- Only responders whose lower-cased URL starts with the regenerated prefix are contacted, only ones the certificate
names, only with issuer candidates, and in the order servers-outer / candidates-inner. -/
theorem requests_only_http (inst : Inst) (cert : Cert) (cands : List Cand) (answer : Str → Cand → Fetch)
    (now : Nat) (T : Table) :
    (lookup ocspFacts V inst cert cands answer now T).requests <+: httpPairs ocspFacts cert cands ∧
    ∀ q ∈ (lookup ocspFacts V inst cert cands answer now T).requests,
      q.1 ∈ cert.servers ∧ isHttp ocspFacts q.1 = true ∧ q.2 ∈ cands := by
  rw [facts_canonical]
  exact ⟨Ocsp.requests_prefix V _ inst cert cands answer now T, Ocsp.requests_only_http V _ inst cert cands answer now T⟩

/-- The filter: case-insensitive `http` prefix (so https and HTTP:// count, ldap:// does not). -/
theorem filter_examples :
    isHttp ocspFacts "http://a/".toList = true ∧ isHttp ocspFacts "https://a/".toList = true ∧
    isHttp ocspFacts "HTTP://A/".toList = true ∧ isHttp ocspFacts "ldap://a/".toList = false ∧
    isHttp ocspFacts "".toList = false := by decide +kernel

/-! Non-vacuity: two responders, two candidates; the first responder is down, the second answers `revoked` to the
second candidate's request only. -/
section Example
def Vx : Key → Signed → Bool := fun k s => k == s
def ca1 : Cand := { certId := 1, key := 11 }
def ca2 : Cand := { certId := 2, key := 12 }
def certX : Cert :=
  { issuer := "CN=ca".toList, subject := "CN=leaf".toList, serial := 77,
    servers := ["ldap://x/".toList, "http://down/".toList, "http://up/".toList] }
def revokedResp : Resp :=
  { respStatus := 0, typeBasic := true, basicParses := true,
    singles := [{ serial := 77, status := .revoked, nextUpdate := none, criticalExt := false, hashKnown := true }],
    responderIdOk := true, embedded := none, signed := 12 }
def answerX : Str → Cand → Fetch := fun s c =>
  if s = "http://up/".toList ∧ c = ca2 then .body (.resp revokedResp) else
  if s = "http://up/".toList then .body .garbage else .error

example : (lookup ocspFacts Vx ⟨true, 0⟩ certX [ca1, ca2] answerX 5 []).result = .revoked := by decide +kernel
example : (lookup ocspFacts Vx ⟨true, 0⟩ certX [ca1, ca2] answerX 5 []).requests =
    [("http://down/".toList, ca1), ("http://down/".toList, ca2), ("http://up/".toList, ca1), ("http://up/".toList, ca2)] := by
  decide +kernel
example : (lookup ocspFacts Vx ⟨true, 0⟩ certX [ca1] answerX 5 []).result = .error := by decide +kernel
example : (lookup ocspFacts Vx ⟨false, 0⟩ certX [ca1] answerX 5 []).result = .good := by decide +kernel
example : (lookup ocspFacts Vx ⟨true, 0⟩ { certX with servers := [("ldap://x/".toList)] } [ca1] answerX 5 []).result = .good := by
  decide +kernel
end Example

/-! Source fingerprints (`Crv/Proofs/Skeleton.lean`) re-exported into this namespace: a change to any of the fingerprinted Go
functions breaks an obligation of this property. -/
theorem ocsp_sources_as_transcribed : Crv.Generated.skeletonOcsp = Crv.Skeleton.expectedOcsp :=
  Crv.Skeleton.ocsp_sources_as_transcribed

end Crv.Props.C02
