import Crv.Ocsp
import Crv.Proofs.Skeleton
import Crv.Generated.Ocsp
import Crv.Proofs.OcspLookup
/-!
C05 — OCSP authenticity: only an issuer-authorised answer for this certificate counts.

`parseOcsp ocspFacts` is `parseOcspResponse` (interpreted over the regenerated facts: which library function is
called, with which arguments, per candidate, followed by `isAuthorizedResponder`) on top of `parseForCert`, the
transcription of `ocsp.ParseResponseForCert` (x/crypto v0.23.0). `V key signedObject` is the opaque signature
predicate; nothing about cryptographic strength is proved — a response whose bytes were altered is a different
`Resp` (different content and/or a `signed` object that no longer verifies) and the theorems apply to it as to any other.
-/
namespace Crv.Props.C05
open Crv Crv.Ocsp Crv.Generated

theorem facts_canonical : ocspFacts = canon ocspFacts.maxClockSkew := rfl

variable (V : Key → Signed → Bool)

theorem ocsp_accept_sound (cert : Cert) (cands : List Cand) (b : Body) (p : Parsed)
    (h : parseOcsp ocspFacts V cert cands b = some p) :
    ∃ r s, b = .resp r ∧ Authentic V cert cands r ∧ firstFor r cert.serial = some s ∧
      p.status = s.status ∧ p.nextUpdate = s.nextUpdate := by
  rw [facts_canonical] at h
  obtain ⟨r, s, hb, hs, ha, _, rfl⟩ := (parseOcsp_eq_some V).mp h
  exact ⟨r, s, hb, ha, hs, rfl, rfl⟩

/-- Exact characterisation: accepted iff authentic and syntactically well-formed. -/
theorem ocsp_accept_iff (cert : Cert) (cands : List Cand) (r : Resp) :
    (∃ p, parseOcsp ocspFacts V cert cands (.resp r) = some p) ↔
      (Authentic V cert cands r ∧ WellFormed r cert.serial) := by
  rw [facts_canonical]
  simp only [parseOcsp_eq_some]
  constructor
  · rintro ⟨_, _, _, hb, _, ha, hwf, _⟩
    cases hb
    exact ⟨ha, hwf⟩
  · rintro ⟨ha, hwf⟩
    obtain ⟨s, hs⟩ := hasSerial_firstFor ha.2.1
    exact ⟨_, r, s, rfl, hs, ha, hwf, rfl⟩

/-- Everything else is no answer: a body that is not an authentic response is rejected by `parseOcspResponse`
(the caller then tries the next pair). -/
theorem unauthentic_rejected (cert : Cert) (cands : List Cand) (b : Body)
    (h : ∀ r, b = .resp r → ¬ Authentic V cert cands r) :
    parseOcsp ocspFacts V cert cands b = none := by
  cases hp : parseOcsp ocspFacts V cert cands b with
  | none => rfl
  | some p =>
    obtain ⟨r, _, hb, ha, _⟩ := ocsp_accept_sound V cert cands b p hp
    exact absurd ha (h r hb)

theorem rejected_of_not_authentic {cert : Cert} {cands : List Cand} {r : Resp} (h : ¬ Authentic V cert cands r) :
    parseOcsp ocspFacts V cert cands (.resp r) = none :=
  unauthentic_rejected V cert cands _ (fun _ hr => Body.resp.inj hr ▸ h)

theorem error_status_rejected (cert : Cert) (cands : List Cand) (r : Resp) (h : r.respStatus ≠ 0) :
    parseOcsp ocspFacts V cert cands (.resp r) = none :=
  rejected_of_not_authentic V (fun ha => h ha.1)

theorem other_serial_rejected (cert : Cert) (cands : List Cand) (r : Resp)
    (h : ∀ s ∈ r.singles, s.serial ≠ cert.serial) :
    parseOcsp ocspFacts V cert cands (.resp r) = none :=
  rejected_of_not_authentic V (fun ha => ha.2.1.elim fun s hs => h s hs.1 hs.2)

theorem stranger_signed_rejected (cert : Cert) (cands : List Cand) (r : Resp)
    (hnone : r.embedded = none) (h : ∀ c ∈ cands, V c.key r.signed = false) :
    parseOcsp ocspFacts V cert cands (.resp r) = none :=
  rejected_of_not_authentic V (fun ha => by
    obtain ⟨c, hc, hsig⟩ := ha.2.2
    rcases hsig with ⟨_, hv⟩ | ⟨e, he, _⟩
    · rw [h c hc] at hv; cases hv
    · rw [hnone] at he; cases he)

/-- An embedded responder certificate that no candidate signed (self-signed stranger, sibling CA's delegate, the client
certificate itself …) does not help, whoever signed the response. -/
theorem unauthorised_embedded_rejected (cert : Cert) (cands : List Cand) (r : Resp) (e : Embedded)
    (hemb : r.embedded = some e) (h : ∀ c ∈ cands, V c.key e.certSigned = false) :
    parseOcsp ocspFacts V cert cands (.resp r) = none :=
  rejected_of_not_authentic V (fun ha => by
    obtain ⟨c, hc, hsig⟩ := ha.2.2
    rcases hsig with ⟨hn, _⟩ | ⟨e', he, hv, _⟩
    · rw [hemb] at hn; cases hn
    · rw [hemb] at he; cases he
      rw [h c hc] at hv; cases hv)

/-- A delegate the issuer did sign, but not for OCSP signing (no OCSPSigning EKU, not the issuer itself), is refused. -/
theorem delegate_without_eku_rejected (cert : Cert) (cands : List Cand) (r : Resp) (e : Embedded)
    (hemb : r.embedded = some e) (heku : e.ocspEku = false) (hid : ∀ c ∈ cands, e.certId ≠ c.certId) :
    parseOcsp ocspFacts V cert cands (.resp r) = none :=
  rejected_of_not_authentic V (fun ha => by
    obtain ⟨c, hc, hsig⟩ := ha.2.2
    rcases hsig with ⟨hn, _⟩ | ⟨e', he, _, hor, _⟩
    · rw [hemb] at hn; cases hn
    · rw [hemb] at he; cases he
      rcases hor with h1 | h1
      · exact hid c hc h1
      · rw [heku] at h1; cases h1)

theorem garbage_rejected (cert : Cert) (cands : List Cand) :
    parseOcsp ocspFacts V cert cands .garbage = none := by
  rw [facts_canonical]
  exact parseOcsp_garbage V _ cert cands

/-- Whole lookup: the verdict is influenced, and the cache written, only through a requested pair whose body is an
authentic response; otherwise the call behaves as if nobody had answered. -/
theorem influence_only_authentic (inst : Inst) (cert : Cert) (cands : List Cand)
    (answer : Str → Cand → Fetch) (now : Nat) (T : Table) :
    ((lookup ocspFacts V inst cert cands answer now T).answered = none ∧
     (lookup ocspFacts V inst cert cands answer now T).stored = none) ∨
    (∃ q ∈ (lookup ocspFacts V inst cert cands answer now T).requests, ∃ r s p,
       answer q.1 q.2 = .body (.resp r) ∧ Authentic V cert cands r ∧
       firstFor r cert.serial = some s ∧ p.status = s.status ∧ p.nextUpdate = s.nextUpdate ∧
       (lookup ocspFacts V inst cert cands answer now T).answered = some p ∧
       (lookup ocspFacts V inst cert cands answer now T).result = verdictOf p) := by
  rw [facts_canonical]
  rcases Ocsp.influence_only_authentic V _ inst cert cands answer now T with h | ⟨q, hq, r, s, p, h1, h2, h3, h4, h5, h6, h7, _⟩
  · left; exact h
  · right; exact ⟨q, hq, r, s, p, h1, h2, h3, h4, h5, h6, h7⟩

/-- If no responder delivers an authentic response, the lookup is exactly the "nobody answered" lookup: all pairs
tried, nothing cached, accepted unless strict (and then rejected — never reported revoked or good on forged input). -/
theorem forged_answers_change_nothing (inst : Inst) (cert : Cert) (cands : List Cand)
    (answer : Str → Cand → Fetch) (now : Nat) (T T' : Table)
    (hmiss : tryGet ocspFacts T (mkKey ocspFacts cert) now = (none, T'))
    (h : ∀ s c r, answer s c = .body (.resp r) → ¬ Authentic V cert cands r) :
    lookup ocspFacts V inst cert cands answer now T =
      lookup ocspFacts V inst cert cands (fun _ _ => .error) now T := by
  rw [facts_canonical]
  -- `hmiss` is not needed: `lookup_forged` holds on a cache hit as well
  exact lookup_forged V _ inst cert cands answer now T h

/-- Issuer candidates: every candidate is a configured trusted responder certificate or a certificate of a presented
chain **above the end-entity position** — position 0 of a chain is eligible only when the chain consists of that one
certificate (a self-signed certificate trusted directly is its own issuer) — and it matches the certificate's issuer by one
of the three rules of RFC 5280 §5.2.1 as `FindCertificateIssuerCandidates` implements them. So the client certificate of an
ordinary chain can never vouch for itself (repaired defect: harness signature `C05 end-entity-is-issuer-candidate`). -/
theorem candidates_sound (cert : Cert) (chains : List (List ChainCert)) (trusted : List ChainCert) (c : ChainCert)
    (h : c ∈ candidates cert (issuerPool ocspFacts chains trusted)) :
    (c ∈ trusted ∨ ∃ ch ∈ chains, c ∈ ch.tail ∨ ch = [c]) ∧
    ((cert.aki = none ∧ c.subject = cert.issuer ∧ c.alg = cert.alg) ∨
     (∃ a sn i, cert.aki = some (some a) ∧ a.certSerial = some sn ∧ a.certIssuer = some i ∧ c.serial = sn ∧ c.issuer = i) ∨
     (∃ a kid, cert.aki = some (some a) ∧ a.certSerial = none ∧ a.keyId = some kid ∧ c.ski = some kid)) := by
  obtain ⟨hmem, hrule⟩ := mem_candidates h
  refine ⟨?_, hrule⟩
  rw [facts_canonical] at hmem
  simp only [issuerPool, List.mem_append, List.mem_flatten, List.mem_map] at hmem
  rcases hmem with ⟨_, ⟨ch, hch, rfl⟩, hx⟩ | hx
  · exact .inr ⟨ch, hch, mem_trimChain_canon hx⟩
  · exact .inl hx

/-- The repaired defect, as an instance: chain [leaf, CA] where the leaf's subject key id equals the key id in its own
AKI. Only the CA is a candidate, and a `good` signed with the leaf's own key is no answer. -/
theorem end_entity_not_candidate_example :
    let leaf : ChainCert := { certId := 2, key := 22, subject := "CN=leaf".toList, issuer := "CN=ca".toList, serial := 77,
                              ski := some [1, 2, 3], alg := 3 }
    let ca : ChainCert := { certId := 1, key := 11, subject := "CN=ca".toList, issuer := "CN=ca".toList, serial := 1,
                            ski := some [1, 2, 3], alg := 3 }
    let cert : Cert := { issuer := "CN=ca".toList, subject := "CN=leaf".toList, serial := 77, servers := [], alg := 3,
                         aki := some (some { keyId := some [1, 2, 3], certSerial := none, certIssuer := none }) }
    let r : Resp := { respStatus := 0, typeBasic := true, basicParses := true,
                      singles := [{ serial := 77, status := .good, nextUpdate := none, criticalExt := false, hashKnown := true }],
                      responderIdOk := true, embedded := none, signed := 22 }
    candidates cert (issuerPool ocspFacts [[leaf, ca]] []) = [ca] ∧
    parseOcsp ocspFacts (fun k s => k == s) cert ((candidates cert (issuerPool ocspFacts [[leaf, ca]] [])).map ChainCert.cand)
      (.resp r) = none ∧
    candidates cert (issuerPool ocspFacts [[leaf]] []) = [leaf] := by
  decide +kernel

section Example
def Vx : Key → Signed → Bool := fun k s => k == s
def ca : Cand := { certId := 1, key := 11 }
def certX : Cert := { issuer := "CN=ca".toList, subject := "CN=leaf".toList, serial := 77, servers := [] }
def single77 : Single := { serial := 77, status := .revoked, nextUpdate := none, criticalExt := false, hashKnown := true }
def base : Resp :=
  { respStatus := 0, typeBasic := true, basicParses := true, singles := [{ single77 with serial := 5, status := .good }, single77],
    responderIdOk := true, embedded := none, signed := 11 }
def delegate : Embedded := { parses := true, certId := 9, key := 19, certSigned := 11, ocspEku := true }

-- issuer-signed, multi-response containing this serial: accepted with the status of *this* serial
example : (parseOcsp ocspFacts Vx certX [ca] (.resp base)).map (·.status) = some .revoked := by decide +kernel
-- delegated responder with EKU
example : (parseOcsp ocspFacts Vx certX [ca] (.resp { base with embedded := some delegate, signed := 19 })).isSome = true := by decide +kernel
-- delegated responder without EKU
example : parseOcsp ocspFacts Vx certX [ca] (.resp { base with embedded := some { delegate with ocspEku := false }, signed := 19 }) = none := by decide +kernel
-- stranger with embedded self-signed certificate
example : parseOcsp ocspFacts Vx certX [ca] (.resp { base with embedded := some { delegate with key := 66, certSigned := 66 }, signed := 66 }) = none := by decide +kernel
-- stranger without embedded certificate
example : parseOcsp ocspFacts Vx certX [ca] (.resp { base with signed := 66 }) = none := by decide +kernel
-- tryLater
example : parseOcsp ocspFacts Vx certX [ca] (.resp { base with respStatus := 3 }) = none := by decide +kernel
-- other serial only
example : parseOcsp ocspFacts Vx certX [ca] (.resp { base with singles := [{ single77 with serial := 78 }] }) = none := by decide +kernel
end Example

/-! Source fingerprints (`Crv/Proofs/Skeleton.lean`) re-exported into this namespace: a change to any of the fingerprinted Go
functions breaks an obligation of this property. -/
theorem ocsp_sources_as_transcribed : Crv.Generated.skeletonOcsp = Crv.Skeleton.expectedOcsp :=
  Crv.Skeleton.ocsp_sources_as_transcribed

end Crv.Props.C05
