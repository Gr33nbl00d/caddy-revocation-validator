import Crv.Ocsp
import Crv.Proofs.Skeleton
import Crv.Generated.Ocsp
import Crv.Proofs.OcspCache
/-!
C14 — OCSP cache soundness: right certificate, bounded lifetime.

Histories are arbitrary lists of events — time advances, expiration checks of cache2go firing (at any moments, or
never), `Cleanup` of some instance flushing the table, and lookups by any validator instance (each with its own
`ocsp_aia_strict` / `default_cache_duration`) for any certificate against any responder behaviour — run from the empty
process-global table. `exec ocspFacts V {} evs` returns the observations of the lookups in order. The cache is the
transcription of cache2go in `Crv/Cache.lean`, including `KeepAlive` on every `Value` (the sliding expiry).
Time is a natural number of milliseconds; `ocspFacts.maxClockSkew` is the regenerated constant in the same unit.
-/
namespace Crv.Props.C14
open Crv Crv.Ocsp Crv.Generated

theorem facts_canonical : ocspFacts = canon ocspFacts.maxClockSkew := rfl

variable (V : Key → Signed → Bool)

/-- The cache key determines issuer and serial: `issuer ++ "_" ++ decimal serial` is injective (the decimal rendering
has no underscore, so the split at the last underscore is unique). -/
theorem key_injective (c₁ c₂ : Cert) :
    mkKey ocspFacts c₁ = mkKey ocspFacts c₂ ↔ (c₁.issuer = c₂.issuer ∧ c₁.serial = c₂.serial) := by
  rw [facts_canonical]
  exact mkKey_canon_inj

/-- The lifetime of an entry as the code computes it when it stores. -/
theorem lifetime_formula (d s : Nat) (nu : Option Nat) :
    lifetime ocspFacts d s nu =
      match nu with
      | some n => if n > s then n - s + ocspFacts.maxClockSkew else d
      | none => d := by
  rw [facts_canonical]
  exact lifetime_canon _ d s nu

/-- `HitOk` of `run_inv`, with key equality turned into issuer/serial equality by `mkKey_canon_inj`; the hit statements
below are projections. -/
theorem hit_source (evs : List Event) (o : Obs) (ho : o ∈ (exec ocspFacts V {} evs).2) (hhit : o.hit = true) :
    ∃ o' ∈ (exec ocspFacts V {} evs).2, o'.seq < o.seq ∧ o'.hit = false ∧
      o'.cert.issuer = o.cert.issuer ∧ o'.cert.serial = o.cert.serial ∧
      ∃ L, o'.stored = some L ∧ o'.t ≤ o.t ∧ o.t ≤ o'.t + L ∧ o.result = o'.result := by
  rw [facts_canonical] at ho ⊢
  obtain ⟨o', ho', hseq, hmiss, hkey, rest⟩ := ((run_inv V _ evs).history o ho).2.2 hhit
  exact ⟨o', ho', hseq, hmiss, (mkKey_canon_inj.mp hkey).1, (mkKey_canon_inj.mp hkey).2, rest⟩

/-- `run_stored` for the regenerated facts; `stored_lifetime` drops the verdict. -/
theorem stored_spec (evs : List Event) (o : Obs) (ho : o ∈ (exec ocspFacts V {} evs).2) (L : Nat)
    (hs : o.stored = some L) :
    ∃ p, o.answered = some p ∧ o.hit = false ∧ L = lifetime ocspFacts o.inst.defaultDur o.t p.nextUpdate ∧ 0 < L ∧
      o.result = verdictOf p := by
  rw [facts_canonical] at ho ⊢
  exact run_stored V _ evs o ho L hs

/-- What is stored, is stored with the computed lifetime, only when it is positive. -/
theorem stored_lifetime (evs : List Event) (o : Obs) (ho : o ∈ (exec ocspFacts V {} evs).2) (L : Nat)
    (hs : o.stored = some L) :
    ∃ p, o.answered = some p ∧ o.hit = false ∧ L = lifetime ocspFacts o.inst.defaultDur o.t p.nextUpdate ∧ 0 < L := by
  obtain ⟨p, h1, h2, h3, h4, _⟩ := stored_spec V evs o ho L hs
  exact ⟨p, h1, h2, h3, h4⟩

theorem hit_same_cert (evs : List Event) (o : Obs) (ho : o ∈ (exec ocspFacts V {} evs).2) (hhit : o.hit = true) :
    ∃ o' ∈ (exec ocspFacts V {} evs).2, o'.seq < o.seq ∧ o'.hit = false ∧
      o'.cert.issuer = o.cert.issuer ∧ o'.cert.serial = o.cert.serial ∧ o.result = o'.result := by
  obtain ⟨o', ho', h1, h2, h3, h4, _, _, _, _, h5⟩ := hit_source V evs o ho hhit
  exact ⟨o', ho', h1, h2, h3, h4, h5⟩

/-- This holds for every access pattern: however often the entry is read (each read renews cache2go's idle timer) and
whenever or whether the expiration check runs. -/
theorem hit_within_lifetime (evs : List Event) (o : Obs) (ho : o ∈ (exec ocspFacts V {} evs).2) (hhit : o.hit = true) :
    ∃ o' ∈ (exec ocspFacts V {} evs).2, ∃ p, o'.seq < o.seq ∧ o'.hit = false ∧ o'.answered = some p ∧
      o'.t ≤ o.t ∧ o.t ≤ o'.t + lifetime ocspFacts o'.inst.defaultDur o'.t p.nextUpdate ∧
      o.result = verdictOf p := by
  obtain ⟨o', ho', h1, h2, _, _, L, hsto, hle, hle2, hres⟩ := hit_source V evs o ho hhit
  obtain ⟨p, hans, _, rfl, _, hres'⟩ := stored_spec V evs o' ho' L hsto
  exact ⟨o', ho', p, h1, h2, hans, hle, hle2, hres.trans hres'⟩

theorem zero_default_no_cache (evs : List Event) (o : Obs) (ho : o ∈ (exec ocspFacts V {} evs).2)
    (hzero : o.inst.defaultDur = 0)
    (hnu : ∀ p, o.answered = some p → ∀ n, p.nextUpdate = some n → n ≤ o.t) :
    o.stored = none := by
  cases hs : o.stored with
  | none => rfl
  | some L =>
    obtain ⟨p, hans, _, hL, hpos, _⟩ := stored_spec V evs o ho L hs
    have h0 : L = 0 := by
      rw [lifetime_formula, hzero] at hL
      cases hn : p.nextUpdate with
      | none => rw [hn] at hL; exact hL
      | some n => rw [hn] at hL; exact hL.trans (if_neg (Nat.not_lt.mpr (hnu p hans n hn)))
    exact absurd hpos (h0 ▸ Nat.lt_irrefl 0)

/-- …and therefore a certificate all of whose lookups run with zero default duration and without usable nextUpdate is
never served from the cache: every call goes to the responders again. -/
theorem zero_default_never_hit (evs : List Event) (c : Cert)
    (hall : ∀ o ∈ (exec ocspFacts V {} evs).2, o.cert.issuer = c.issuer → o.cert.serial = c.serial →
      o.inst.defaultDur = 0 ∧ ∀ p, o.answered = some p → ∀ n, p.nextUpdate = some n → n ≤ o.t)
    (o : Obs) (ho : o ∈ (exec ocspFacts V {} evs).2) (hi : o.cert.issuer = c.issuer) (hs : o.cert.serial = c.serial) :
    o.hit = false := by
  cases hh : o.hit with
  | false => rfl
  | true =>
    -- the hit would come from a lookup for the same issuer and serial that stored something
    obtain ⟨w, hw, _, _, h1, h2, L, hsto, _⟩ := hit_source V evs o ho hh
    obtain ⟨hz, hnu⟩ := hall w hw (h1.trans hi) (h2.trans hs)
    rw [zero_default_no_cache V evs w hw hz hnu] at hsto
    cases hsto

theorem failures_not_cached (evs : List Event) (o : Obs) (ho : o ∈ (exec ocspFacts V {} evs).2)
    (hfail : o.answered = none) : o.stored = none := by
  cases hs : o.stored with
  | none => rfl
  | some L =>
    obtain ⟨p, hans, _⟩ := stored_spec V evs o ho L hs
    rw [hfail] at hans; cases hans

/-! ### The cache table is a finite map (cache2go keeps its items in a Go map)

The model keeps `CacheTable.items` as an association list. These theorems say that, through `find?`, every operation the
checker uses acts on it exactly as the corresponding operation acts on a map with one item per key: the list
representation adds no behaviour (no shadowed duplicates, no resurrection of a replaced item by a later sweep). -/
section TableIsMap
open Crv.Cache
variable {κ α : Type} [DecidableEq κ]

/-- One item per key (a Go map). -/
def Uniq (T : Cache.Table κ α) : Prop := (T.map Prod.fst).Nodup

theorem uniq_cons {a : κ} {it : Item α} {T : Cache.Table κ α} : Uniq ((a, it) :: T) ↔ find? T a = none ∧ Uniq T := by
  rw [find?_eq_none]; exact List.nodup_cons

theorem find_delete (T : Cache.Table κ α) (k k' : κ) :
    find? (delete T k) k' = if k' = k then none else find? T k' := by
  induction T with
  | nil => exact (ite_self _).symm
  | cons p T ih =>
    obtain ⟨a, it⟩ := p
    rw [delete_cons, find?_cons]
    by_cases hak : a = k
    · rw [if_pos hak, ih]
      by_cases hk : k' = k
      · rw [if_pos hk, if_pos hk]
      · rw [if_neg hk, if_neg hk, if_neg (fun e => hk (e.symm.trans hak))]
    · rw [if_neg hak, find?_cons, ih]
      by_cases hk : a = k'
      · rw [if_pos hk, if_pos hk, if_neg (fun e => hak (hk.trans e))]
      · rw [if_neg hk, if_neg hk]

/-- `Add` then `Value` of the same key: the new item, created and accessed now. -/
theorem find_add_same (T : Cache.Table κ α) (k : κ) (life now : Nat) (d : α) :
    find? (add T k life d now) k = some { data := d, lifeSpan := life, createdOn := now, accessedOn := now } := by
  rw [add, find?_cons, if_pos rfl]

/-- `Add` leaves every other key alone. -/
theorem find_add_other (T : Cache.Table κ α) (k k' : κ) (life now : Nat) (d : α) (h : k' ≠ k) :
    find? (add T k life d now) k' = find? T k' := by
  rw [add, find?_cons, if_neg (Ne.symm h), find_delete, if_neg h]

/-- `KeepAlive` changes the access time of that key's item and nothing else. -/
theorem find_touch (T : Cache.Table κ α) (k k' : κ) (now : Nat) :
    find? (touch T k now) k' =
      (find? T k').map (fun it => if k' = k then { it with accessedOn := now } else it) := by
  induction T with
  | nil => rfl
  | cons p T ih =>
    obtain ⟨a, it⟩ := p
    rw [touch_cons, find?_cons, find?_cons, ih]
    by_cases hk : a = k'
    · rw [if_pos hk, if_pos hk, hk]; rfl
    · rw [if_neg hk, if_neg hk]

omit [DecidableEq κ] in
theorem uniq_filter (q : κ × Item α → Bool) {T : Cache.Table κ α} (h : Uniq T) : Uniq (T.filter q) :=
  (List.filter_sublist.map Prod.fst).nodup h

theorem uniq_delete (T : Cache.Table κ α) (k : κ) (h : Uniq T) : Uniq (delete T k) := uniq_filter _ h

omit [DecidableEq κ] in
theorem uniq_sweep (T : Cache.Table κ α) (now : Nat) (h : Uniq T) : Uniq (sweep T now) := uniq_filter _ h

theorem uniq_add (T : Cache.Table κ α) (k : κ) (life now : Nat) (d : α) (h : Uniq T) : Uniq (add T k life d now) :=
  uniq_cons.mpr ⟨by rw [find_delete, if_pos rfl], uniq_delete T k h⟩

theorem uniq_touch (T : Cache.Table κ α) (k : κ) (now : Nat) (h : Uniq T) : Uniq (touch T k now) := by
  have : (touch T k now).map Prod.fst = T.map Prod.fst := by
    rw [touch, List.map_map]
    exact List.map_congr_left fun p _ => by dsimp only [Function.comp]; split <;> rfl
  show ((touch T k now).map Prod.fst).Nodup
  rw [this]; exact h

/-- An expiration check removes exactly the expired items: with one item per key, no other item of the key can surface. -/
theorem find_sweep (T : Cache.Table κ α) (k : κ) (now : Nat) (h : Uniq T) :
    find? (sweep T now) k = (find? T k).bind (fun it => if expired it now then none else some it) := by
  induction T generalizing k with
  | nil => rfl
  | cons p T ih =>
    obtain ⟨a, it⟩ := p
    obtain ⟨ha, hT⟩ := uniq_cons.mp h
    rw [sweep_cons, find?_cons]
    by_cases hak : a = k
    · subst hak
      rw [if_pos rfl, Option.bind_some]
      cases he : expired it now
      · rw [if_neg Bool.false_ne_true, if_neg Bool.false_ne_true, find?_cons, if_pos rfl]
      · -- the head goes, and no older item of the key can surface: the tail has none
        rw [if_pos rfl, if_pos rfl, ih _ hT, ha]; rfl
    · rw [if_neg hak, ← ih _ hT]
      cases expired it now
      · rw [if_neg Bool.false_ne_true, find?_cons, if_neg hak]
      · rw [if_pos rfl]

omit [DecidableEq κ] in
theorem uniq_empty : Uniq ([] : Cache.Table κ α) := List.nodup_nil

/-- Sliding expiry, as cache2go has it: an item that was read at `t` survives every expiration check before
`t + lifeSpan` (so the checker's own absolute `validUntil` test is what bounds a cached answer's life, C14). -/
theorem touched_survives (T : Cache.Table κ α) (k : κ) (it : Item α) (t now : Nat) (h : Uniq T)
    (hf : find? T k = some it) (hnow : now < t + it.lifeSpan) (ht : t ≤ now) :
    find? (sweep (touch T k t) now) k = some { it with accessedOn := t } := by
  rw [find_sweep _ _ _ (uniq_touch T k t h), find_touch, hf]
  simp only [Option.map_some, ↓reduceIte, Option.bind_some]
  have : expired ({ it with accessedOn := t } : Item α) now = false := by
    rw [expired, decide_eq_false (Nat.not_le.mpr (Nat.sub_lt_left_of_lt_add ht hnow)), Bool.and_false]
  rw [this]; rfl

/-- `Count()` is the number of keys: deleting a present key removes exactly one item (one item per key), an absent one none. -/
theorem length_delete (T : Cache.Table κ α) (k : κ) (h : Uniq T) :
    (delete T k).length + (if (find? T k).isSome then 1 else 0) = T.length := by
  induction T with
  | nil => rfl
  | cons p T ih =>
    obtain ⟨a, it⟩ := p
    obtain ⟨ha, hT⟩ := uniq_cons.mp h
    have ih := ih hT
    rw [delete_cons, find?_cons]
    by_cases hak : a = k
    · subst hak
      rw [ha] at ih
      rw [if_pos rfl, if_pos rfl]
      exact congrArg (· + 1) ih
    · rw [if_neg hak, if_neg hak, List.length_cons, List.length_cons, Nat.add_right_comm, ih]

/-- `Add` of a new key makes the table one larger, `Add` of a present key replaces its item. -/
theorem length_add (T : Cache.Table κ α) (k : κ) (life now : Nat) (d : α) (h : Uniq T) :
    (add T k life d now).length = if (find? T k).isSome then T.length else T.length + 1 := by
  have := length_delete T k h
  rw [add, List.length_cons]
  by_cases hc : (find? T k).isSome = true
  · rw [if_pos hc] at this ⊢; exact this
  · rw [if_neg hc] at this ⊢; exact congrArg (· + 1) this

/-- `Value` returns the stored item of the key, if any, and never changes which keys are present. -/
theorem value_spec (T : Cache.Table κ α) (k k' : κ) (now : Nat) :
    (value T k now).1 = find? T k ∧ ((find? (value T k now).2 k').isSome = (find? T k').isSome) := by
  unfold value
  cases hf : find? T k with
  | none => simp
  | some it =>
    simp only [true_and]
    rw [find_touch]
    cases find? T k' <;> simp

/-- `tryGetResponseFromCache` keeps one item per key (whatever the regenerated facts are). -/
theorem tryGet_uniq (F : Facts) (T : Ocsp.Table) (k : Str) (now : Nat) (h : Uniq T) : Uniq (tryGet F T k now).2 := by
  unfold tryGet
  fun_cases Cache.value T k now
  · exact h
  · dsimp only
    split
    · exact uniq_delete _ _ (uniq_touch T k now h)
    · exact uniq_touch T k now h

/-- `OCSPRevocationChecker.IsRevoked` keeps one item per key. -/
theorem lookup_uniq (F : Facts) (V : Key → Signed → Bool) (inst : Inst) (cert : Cert) (cands : List Cand)
    (answer : Str → Cand → Fetch) (now : Nat) (T : Ocsp.Table) (h : Uniq T) :
    Uniq (lookup F V inst cert cands answer now T).table := by
  have hcg : Uniq (if F.cacheFirst then tryGet F T (mkKey F cert) now else (none, T)).2 := by
    split
    · exact tryGet_uniq F T _ now h
    · exact h
  fun_cases lookup F V inst cert cands answer now T
  case case2 =>
    show Uniq (if _ then _ else _)
    split
    · exact uniq_add _ _ _ _ _ hcg
    · exact hcg
  all_goals exact hcg

/-- **The process-global OCSP table is a map in every reachable state**: after any history of lookups by any instances, time
steps, expiration checks and flushes, the table holds at most one item per key — so `find?` (cache2go's map access) and the
`find_*` laws above describe it completely. -/
theorem exec_table_uniq (F : Facts) (V : Key → Signed → Bool) (evs : List Event) (w : World) (h : Uniq w.table) :
    Uniq (exec F V w evs).1.table :=
  exec_invariant V (fun w _ => Uniq w.table) (fun w _ e h => by
    cases e with
    | advance dt => exact h
    | sweep => exact uniq_sweep _ _ h
    | flush => exact uniq_empty
    | look inst cert cands answer => exact lookup_uniq F V inst cert cands answer w.now w.table h) evs w [] h

theorem reachable_table_uniq (evs : List Event) : Uniq (exec ocspFacts V {} evs).1.table :=
  exec_table_uniq ocspFacts V evs {} uniq_empty

end TableIsMap

/-! Non-vacuity: default 100 ms; responder says good, then flips to revoked; the certificate is read every 40–50 ms.
Reads at 50 and 90 are hits; the read at 110 — only 20 ms after the previous one, so cache2go still holds the item —
is a miss because the absolute expiry passed, and sees `revoked`. A second certificate of another issuer with the same
subject and serial never shares the entry. -/
section Example
def Vx : Key → Signed → Bool := fun k s => k == s
def ca : Cand := { certId := 1, key := 11 }
def certA : Cert := { issuer := "CN=ca A".toList, subject := "CN=leaf".toList, serial := 77, servers := ["http://r/".toList] }
def certB : Cert := { issuer := "CN=ca B".toList, subject := "CN=leaf".toList, serial := 77, servers := ["http://r/".toList] }
def respWith (st : CertStatus) : Resp :=
  { respStatus := 0, typeBasic := true, basicParses := true,
    singles := [{ serial := 77, status := st, nextUpdate := none, criticalExt := false, hashKnown := true }],
    responderIdOk := true, embedded := none, signed := 11 }
def says (st : CertStatus) : Str → Cand → Fetch := fun _ _ => .body (.resp (respWith st))
def down : Str → Cand → Fetch := fun _ _ => .error
def inst100 : Inst := { strict := true, defaultDur := 100 }
def hist : List Event :=
  [.look inst100 certA [ca] (says .good), .advance 50, .look inst100 certA [ca] (says .revoked),
   .look inst100 certB [ca] down,
   .advance 40, .sweep, .look inst100 certA [ca] (says .revoked), .advance 20, .sweep,
   .look inst100 certA [ca] (says .revoked)]

example : (exec ocspFacts Vx {} hist).2.map (fun o => (o.t, o.hit, o.result, o.stored)) =
    [(0, false, .good, some 100), (50, true, .good, none), (50, false, .error, none), (90, true, .good, none),
     (110, false, .revoked, some 100)] := by decide +kernel
-- the table laws on the example: one item per key at the end; a touched item survives the check it would otherwise not
example : ((exec ocspFacts Vx {} hist).1.table.map Prod.fst).length = 1 := by decide +kernel
example : Cache.find? (Cache.sweep (Cache.add ([] : Cache.Table Nat Nat) 7 100 1 0) 100) 7 = none := by decide +kernel
example : (Cache.find? (Cache.sweep (Cache.touch (Cache.add ([] : Cache.Table Nat Nat) 7 100 1 0) 7 60) 100) 7).isSome = true := by
  decide +kernel
end Example

/-! Source fingerprints (`Crv/Proofs/Skeleton.lean`) re-exported into this namespace: a change to any of the fingerprinted Go
functions breaks an obligation of this property. -/
theorem ocsp_sources_as_transcribed : Crv.Generated.skeletonOcsp = Crv.Skeleton.expectedOcsp :=
  Crv.Skeleton.ocsp_sources_as_transcribed

end Crv.Props.C14
