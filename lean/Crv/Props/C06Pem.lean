import Crv.Proofs.Pem
/-!
C06 (PEM side) — the PEM armour in front of the streaming CRL reader.

`Crv.Pem.pemDecode` models the pipeline of `crlreader.newHashingPEMCRLReader`
(bufio → `pemreader.PemReader` → `base64.NewDecoder` → bufio): the bytes which reach the ASN.1 parser and the
error which ends the stream.  The model is tied to the real code by the differential stream `pem`
(`Crv.Driver.stepPem`, harness `c06pem.go`).  Proved here:

* base64 and PEM round trips (what `pem.EncodeToMemory` writes is read back exactly, LF or CRLF),
* PEM detection (`isPemFile`) accepts such files and rejects anything which does not start with `-`
  (in particular DER, which starts with 0x30),
* armour lines in front of the data are skipped in any number, text without a final `\n` is dropped,
* the stream never delivers more bytes than the file holds; the "buffer need to be at least 66 bytes"
  error of `PemReader.Read` is unreachable for the read sizes the outer `bufio.Reader` uses.

`pemDecode` is a total function (structural recursion only), so the PEM layer itself cannot diverge on any
input; a file made of armour lines only is consumed in one pass (`deliver` skips them iteratively).
-/
namespace Crv.Props.C06.Pem
open Crv.Pem

/-- `X509 CRL` -/
def crlLabel : List UInt8 := [88, 53, 48, 57, 32, 67, 82, 76]

example : labelOk crlLabel := by decide +kernel
example : ¬ labelOk [120] := by decide +kernel           -- lower case is not accepted by the armour regexp
example : labelOk [] := by decide +kernel

/-- **base64 round trip** through Go's streaming decoder. -/
theorem b64_round_trip : ∀ bs, b64DecodeStream (b64Encode bs) = (bs, .eof) := fun bs =>
  b64Chunks_encode [] _ bs (by simp) (by simp [(chunksOf_spec (n := 1024) (by omega) _).1])

/-- The same for every way the encoded text may reach the decoder in pieces (lines of any width, reads of
any size): the result does not depend on the chunking. -/
theorem b64_round_trip_chunked (cs : List (List UInt8)) (bs : List UInt8) (h : cs.flatten = b64Encode bs) :
    b64Chunks [] cs = (bs, .eof) :=
  b64Chunks_encode [] cs bs (by simp) (by simpa using h)

/-- **PEM round trip**: what `pem.EncodeToMemory` writes for a label in `[A-Z0-9 ]*` is decoded to exactly
the DER bytes, and the stream ends with a plain EOF. -/
theorem pem_round_trip : ∀ crlf label der, labelOk label → pemDecode (pemEncode crlf label der) = (der, .eof) := by
  intro crlf label der h
  simpa [pemEncode] using
    pemDecode_armoured crlf label der h [endLine label ++ eol crlf] (by simpa using endLine_facts h crlf)

theorem pem_lf_crlf_agree (l d : List UInt8) (h : labelOk l) :
    pemDecode (pemEncode true l d) = pemDecode (pemEncode false l d) := by
  rw [pem_round_trip true l d h, pem_round_trip false l d h]

/-- **Detection**: such a file is recognised as PEM (the first line must fit bufio's 4096-byte buffer). -/
theorem pem_detected (crlf : Bool) (label der : List UInt8) (h : labelOk label) (hlen : label.length ≤ 4078) :
    isPemFile (pemEncode crlf label der) = true :=
  isPemFile_pemEncode crlf label der h hlen

theorem pem_needs_dash (input : List UInt8) (h : isPemFile input = true) : ∃ t, input = 45 :: t :=
  isPemFile_head h

/-- **DER is not PEM**: a file starting with the SEQUENCE tag is read as DER. -/
theorem der_not_pem (rest : List UInt8) : isPemFile (0x30 :: rest) = false := by
  cases h : isPemFile (0x30 :: rest) with
  | false => rfl
  | true =>
    obtain ⟨t, e⟩ := isPemFile_head h
    simp at e

theorem empty_not_pem : isPemFile [] = false := by decide +kernel

/-- **Armour lines are skipped iteratively**: any number of armour lines (each ending in `\n`) in front of a
text changes nothing. -/
theorem armour_lines_skipped (armourLines : List (List UInt8))
    (h : ∀ a ∈ armourLines, isArmour a = true ∧ a.getLast? = some 10) (text : List UInt8) :
    pemDecode (armourLines.flatten ++ text) = pemDecode text := by
  have hl : ∀ a ∈ armourLines, IsLine a ∧ isArmour a = true :=
    fun a ha => ⟨isArmour_isLine (h a ha).1 (h a ha).2, (h a ha).1⟩
  simp only [pemDecode, pemLines_armour_lines armourLines hl text]

theorem armour_only (armourLines : List (List UInt8))
    (h : ∀ a ∈ armourLines, isArmour a = true ∧ a.getLast? = some 10) :
    pemDecode armourLines.flatten = ([], .eof) := by
  have := armour_lines_skipped armourLines h []
  simp only [List.append_nil] at this
  rw [this]; decide +kernel

/-- **Unterminated last line**: text after the last `\n` never reaches the decoder (`ReadString` returns it
together with io.EOF and `PemReader` drops it). -/
theorem unterminated_tail_dropped (text tail : List UInt8) (h : (10 : UInt8) ∉ tail) :
    pemDecode (text ++ tail) = pemDecode text := by
  simp only [pemDecode, pemLines, splitLines_append_unterminated text tail h]

/-- So a PEM file still decodes when its last line lacks the `\n` — whatever that line is (the END line, a
truncated END line, anything without `\n`). -/
theorem pem_round_trip_unterminated_end (crlf : Bool) (label der tail : List UInt8) (h : labelOk label)
    (ht : (10 : UInt8) ∉ tail) :
    pemDecode ((beginLine label ++ eol crlf) ++ ((bodyLines crlf der).flatten ++ tail)) = (der, .eof) := by
  have e : (beginLine label ++ eol crlf) ++ ((bodyLines crlf der).flatten ++ tail) =
      ((beginLine label ++ eol crlf) ++ ((bodyLines crlf der).flatten ++ ([] : List (List UInt8)).flatten)) ++ tail := by
    simp
  rw [e, unterminated_tail_dropped _ _ ht]
  exact pemDecode_armoured crlf label der h [] (by simp)

/-- …but a body line without its `\n` is lost without any error: here `QUJD` (= "ABC") after a BEGIN line. -/
example : pemDecode ([45,45,45,45,45,88,45,45,45,45,45,10] ++ [81,85,74,68]) = ([], .eof) := by decide +kernel
example : pemDecode ([45,45,45,45,45,88,45,45,45,45,45,10] ++ [81,85,74,68,10]) = ([65,66,67], .eof) := by decide +kernel

/-- **Size**: the parser never receives more bytes than the file holds. -/
theorem decoded_not_longer (input : List UInt8) : (pemDecode input).1.length ≤ input.length := by
  have := pemDecode_length input
  omega

/-- **Room for `PemReader.Read`**: `decoder.Read(p)` with at least 54 bytes in `p` offers at least the 66 bytes
which `PemReader.Read` insists on.  The outer `bufio.Reader` passes its whole 4096-byte buffer, a caller
slice of at least 4096 bytes, or (from `Peek n`, n ≤ 17 in the parser) at least 4080 bytes. -/
theorem read_room_ok (pLen nbuf : Nat) (hp : 54 ≤ pLen) (hn : nbuf ≤ 3) : 66 ≤ readRoom pLen nbuf := by
  unfold readRoom; omega

/-- Below that the error path exists: 51 bytes of room in `p` give `PemReader.Read` 65 bytes at most. -/
example : readRoom 51 3 = 65 := by decide +kernel
example : readRoom 4080 3 = 1021 := by decide +kernel

/-- `SEQUENCE { INTEGER 5 }` -/
def tinyDer : List UInt8 := [0x30, 0x03, 0x02, 0x01, 0x05]

-- "-----BEGIN X509 CRL-----\nMAMCAQU=\n-----END X509 CRL-----\n"
example : pemEncode false crlLabel tinyDer =
    [45,45,45,45,45,66,69,71,73,78,32,88,53,48,57,32,67,82,76,45,45,45,45,45,10,
     77,65,77,67,65,81,85,61,10,
     45,45,45,45,45,69,78,68,32,88,53,48,57,32,67,82,76,45,45,45,45,45,10] := by decide +kernel
example : pemDecode (pemEncode false crlLabel tinyDer) = (tinyDer, .eof) := by decide +kernel
example : pemDecode (pemEncode true crlLabel tinyDer) = (tinyDer, .eof) := by decide +kernel
example : isPemFile (pemEncode true crlLabel tinyDer) = true := by decide +kernel
example : isPemFile tinyDer = false := by decide +kernel
example : b64Encode [65, 66, 67, 68] = [81, 85, 74, 68, 82, 65, 61, 61] := by decide +kernel        -- "QUJDRA=="
example : b64DecodeStream [81, 85, 74, 68, 82, 65, 61, 61] = ([65, 66, 67, 68], .eof) := by decide +kernel
example : b64DecodeStream [81, 85, 74, 68, 82, 65, 61] = ([65, 66, 67], .unexpectedEOF) := by decide +kernel   -- "QUJDRA="
example : b64DecodeStream [81, 85, 74, 42] = ([], .corrupt) := by decide +kernel                                 -- "QUJ*"
-- data after padding inside one slice: the padded quantum is delivered, then the error ("QQ==QUJD")
example : b64DecodeStream [81, 81, 61, 61, 81, 85, 74, 68] = ([65], .corrupt) := by decide +kernel
-- the same with the padding at the end of a line: accepted, both parts are delivered ("QQ==\nQUJD\n")
example : pemDecode [81, 81, 61, 61, 10, 81, 85, 74, 68, 10] = ([65, 65, 66, 67], .eof) := by decide +kernel
-- a line of 67 bytes (66 characters + \n) ends the stream with the line-length error, 66 bytes are fine
example : (pemDecode (List.replicate 66 65 ++ [10])).2 = .lineTooLong := by decide +kernel
example : (pemDecode (List.replicate 65 65 ++ [10])).2 = .unexpectedEOF := by decide +kernel
example : (pemDecode (List.replicate 64 65 ++ [13, 10])).2 = .eof := by decide +kernel
-- armour: "----------" is an armour line, lower-case labels are not, 11 dashes are not
example : isArmour (List.replicate 10 45) = true := by decide +kernel
example : isArmour (List.replicate 11 45) = false := by decide +kernel
example : isArmour ([45,45,45,45,45,120,45,45,45,45,45]) = false := by decide +kernel
example : isArmour ([45,45,45,45,45,88,45,45,45,45,45,13,10]) = true := by decide +kernel
example : isArmour ([45,45,45,45,45,88,45,45,45,45,45,13]) = false := by decide +kernel
-- text in front of the BEGIN line is fed to the decoder ("hi\n" + PEM → corrupt or garbage, here unexpected bytes)
example : pemDecode ([104, 105, 10] ++ pemEncode false crlLabel tinyDer) ≠ (tinyDer, .eof) := by decide +kernel
-- data after the END line is decoded as well
example : pemDecode (pemEncode false crlLabel tinyDer ++ [81, 85, 74, 68, 10]) = (tinyDer ++ [65, 66, 67], .eof) := by
  decide +kernel

end Crv.Props.C06.Pem
