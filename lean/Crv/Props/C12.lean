import Crv.Disk
import Crv.Proofs.Skeleton
import Crv.Generated.Paths
import Crv.Proofs.Paths  -- used by nothing below: puts the facts about names (hex, temp pattern) under this property's check
import Crv.Proofs.PathsOps
import Crv.Proofs.Disk
import Crv.Proofs.PathsWalk
/-!
C12 — Crash consistency of disk storage.

All statements are about `loadSteps` / `refreshSteps` compiled from the programs the translator regenerates from
`loadCRL`, `updateCrlEntry` and `LevelDbStore.Update` (`Crv.Generated.pathFacts`), for every document (any number of
entries), every signature outcome and mode, and every crash point `k` (a prefix of the step list).

Partial by nature (named in the claim): `Put`, `rename`, `mkdir`, `RemoveAll` are atomic and durable against *process*
death; power-loss ordering between them and LevelDB's own log recovery are trusted, not modelled.
-/
namespace Crv.Props.C12
open Crv.Paths Crv.Disk Crv.Generated

/-- Hypotheses about the names of one operation: the download file, the staged store and the moved-aside store carry
temp-pattern names that are new in work_dir and pairwise different; the live store name does not match the pattern
(for the real 64-hex names this is `C20.sweep_spares_live`). No theorem reads `aT`: `sweep_clean` speaks of every
temp-pattern name at once. -/
structure CrashCtx (sc : Scn) (fs : Fs) : Prop where
  names : NamesOk sc (Fs.get fs)
  tT : matchesTemp pathFacts sc.t = true
  sT : matchesTemp pathFacts sc.s = true
  aT : matchesTemp pathFacts sc.a = true
  idN : matchesTemp pathFacts sc.id = false

/-- Common core: after a crash at any point of a load or refresh and the restart, the live store holds what it held
before, or nothing (a fresh empty database), or the complete staged image of the document the run had accepted. -/
theorem crash_image {sc : Scn} {withLoc : Bool} {steps : List Step} (S : Shape sc withLoc steps) (fs : Fs)
    (c : CrashCtx sc fs) (old : DbImage) (hlive : Fs.get fs sc.id = some (.dir old)) (k : Nat) :
    let fs' := restart pathFacts sc.id (crashAt k steps fs)
    image fs' sc.id = some old ∨ image fs' sc.id = some [] ∨
      ∃ d, accepted sc = some d ∧ image fs' sc.id = some (stagedOf sc d withLoc) := by
  intro fs'
  have hi : image fs' sc.id = _ := image_restart pathFacts sc.id (crashAt k steps fs) c.idN
  rw [crashAt, get_run] at hi
  rcases S.prefix_live (Fs.get fs) c.names (.dir old) hlive k with h | h | ⟨d, ha, h⟩ <;> rw [h] at hi
  · exact Or.inl hi
  · exact Or.inr (Or.inl hi)
  · exact Or.inr (Or.inr ⟨d, ha, hi⟩)

/-- **Refresh.** If the process dies at any instant of a refresh, then after restart the location is treated as loaded
only if the directory holds the previous image, or the complete image of the new document, and the latter only if the
run had accepted it under the configured signature policy. -/
theorem crash_refresh (sc : Scn) (fs : Fs) (c : CrashCtx sc fs) (old : DbImage)
    (hlive : Fs.get fs sc.id = some (.dir old)) (k : Nat) :
    let fs' := restart pathFacts sc.id (crashAt k (refreshSteps pathFacts sc) fs)
    loaded fs' sc.id = true →
      image fs' sc.id = some old ∨
      ∃ d, accepted sc = some d ∧ image fs' sc.id = some (fullImage sc.loc d (sc.sigChecked && d.sigOk)) := by
  intro fs' hl
  obtain ⟨img, hi, hm⟩ := (loaded_iff fs' sc.id).mp hl
  rcases crash_image (refresh_shape sc) fs c old hlive k with h | h | ⟨d, ha, h⟩
  · exact Or.inl h
  · rw [hi] at h; cases h; cases hm
  · exact Or.inr ⟨d, ha, h⟩  -- `stagedOf sc d true` is this `fullImage` by `fullImage_eq`

/-- The new image is complete: it is marked loaded and lists exactly the serials of the accepted document. -/
theorem complete_image_answers (loc : Nat) (d : Doc) (signed : Bool) :
    ((fullImage loc d signed).get .metaInfo).isSome = true ∧ ∀ x, listed (fullImage loc d signed) x = true ↔ x ∈ d.serials := by
  -- `fullImage loc d signed` is `stagedImage sc d true signed` for any `sc` with this `loc` (`fullImage_eq`); the other
  -- fields are never looked at
  let sc : Scn := { disk := true, sigChecked := true, sigRequired := true, origin := .down, id := [], hasLoc := true, loc := loc,
                    t := [], s := [], a := [] }
  exact ⟨stagedImage_loaded sc d true signed, fun x => stagedImage_listed sc d true signed x⟩

/-- **First load.** The live directory exists but carries no meta record (at most the
locations record). Whatever the crash point: after restart the location counts as loaded only if the directory holds the
complete image of the document, and the run had accepted it. In particular partially streamed or rejected data is never
consulted. -/
theorem crash_first_load (sc : Scn) (fs : Fs) (c : CrashCtx sc fs) (live : DbImage)
    (hlive : Fs.get fs sc.id = some (.dir live)) (hnot : live.get .metaInfo = none) (k : Nat) :
    let fs' := restart pathFacts sc.id (crashAt k (loadSteps pathFacts sc) fs)
    loaded fs' sc.id = true →
      ∃ d, accepted sc = some d ∧ image fs' sc.id = some (stagedImage sc d sc.hasLoc (sc.sigChecked && d.sigOk)) := by
  intro fs' hl
  obtain ⟨img, hi, hm⟩ := (loaded_iff fs' sc.id).mp hl
  rcases crash_image (load_shape sc) fs c live hlive k with h | h | ⟨d, ha, h⟩
  · rw [hi] at h; cases h; rw [hnot] at hm; cases hm
  · rw [hi] at h; cases h; cases hm
  · exact ⟨d, ha, h⟩

/-- **Rejected or failed run** (origin down, parse error after any number of records, bad signature under `verify`):
at every crash point the restarted work_dir is exactly the restarted work_dir of before — all the run ever had was a
download file and a staged directory, both carrying temp names that the startup sweep removes. -/
theorem crash_rejected_leaves_nothing (sc : Scn) (fs : Fs) (c : CrashCtx sc fs) (ha : accepted sc = none)
    (steps : List Step) (hs : steps = loadSteps pathFacts sc ∨ steps = refreshSteps pathFacts sc) (k : Nat) (n : Name) :
    Fs.get (restart pathFacts sc.id (crashAt k steps fs)) n = Fs.get (restart pathFacts sc.id fs) n := by
  refine congrFun (restart_congr pathFacts sc.id _ fs fun m hm => ?_) n
  -- the two names such a run touches match the pattern
  have hmn : m ∉ [sc.t, sc.s] := by
    simp only [List.mem_cons, List.not_mem_nil, or_false, not_or]
    exact ⟨(fun e => by rw [e, c.tT] at hm; cases hm), fun e => by rw [e, c.sT] at hm; cases hm⟩
  rw [crashAt, get_run]
  rcases hs with rfl | rfl
  · exact (load_shape sc).prefix_rejected ha _ k m hmn
  · exact (refresh_shape sc).prefix_rejected ha _ k m hmn

/-- **Startup sweep.** After restart no name matching the temp pattern remains, every other name keeps its node
(no live store is removed: their names never match, `C20.sweep_spares_live`), and the location's own directory is kept
if it was there. -/
theorem sweep_clean (id : Name) (fs : Fs) (hid : matchesTemp pathFacts id = false) :
    (∀ n, matchesTemp pathFacts n = true → Fs.get (restart pathFacts id fs) n = none) ∧
    (∀ n, matchesTemp pathFacts n = false → n ≠ id → Fs.get (restart pathFacts id fs) n = Fs.get fs n) ∧
    (∀ x, Fs.get fs id = some x → Fs.get (restart pathFacts id fs) id = some x) := by
  refine ⟨fun n hn => ?_, fun n hn hne => ?_, fun x hx => ?_⟩
  · rw [restart_ne _ _ _ _ (fun e => by rw [e, hid] at hn; cases hn), hn]; rfl
  · rw [restart_ne _ _ _ _ hne, hn]; rfl
  · rw [restart_live _ _ _ hid, hx]

/-! ### The clean-up is a `filepath.Walk`

`sweep` — the filter every statement of this file is about — is an idealisation of `DeleteTempFilesIfExist`, which walks
work_dir with a callback. `startupSweep` is that walk (children in byte-wise lexical order, `SkipDir` semantics of
`filepath.Walk`) with the two guards of the callback as the translator reads them from the source on every run. -/

/-- The callback as regenerated: `deleteIfTempFileOrDir` is called for every entry except work_dir itself, `SkipDir` is
returned for every directory except work_dir itself (and for nothing else). Any other shape breaks this obligation. -/
theorem walk_guards_canonical : walkDeleteGuard = "nonroot" ∧ walkSkipGuard = "dir-nonroot" :=
  Crv.Paths.walk_guards_canonical

/-- With that callback the walk never stops early: it visits every child of work_dir and removes exactly those whose
name matches the pattern, files and directories alike. -/
theorem walk_visits_every_child (F : Facts) (l : List (Name × Node)) :
    walkDeleted "nonroot" "dir-nonroot" F l = (l.filter (fun e => matchesTemp F e.1)).map (·.1) :=
  Crv.Paths.walk_visits_every_child F l

/-- **The walk of the source is the filter.** For every listing of work_dir, `DeleteTempFilesIfExist` with the
regenerated callback shape leaves exactly what `sweep` leaves. -/
theorem startup_walk_is_sweep (F : Facts) (fs : Fs) : startupSweep F fs = sweep F fs :=
  Crv.Paths.startup_walk_is_sweep F fs

/-- Hence `restart` (sweep, then the location's store is opened) is the restart with the real walk. -/
theorem restart_is_walk (id : Name) (fs : Fs) :
    restart pathFacts id fs = (Step.openStore id).apply (startupSweep pathFacts fs) := by
  rw [Crv.Paths.startup_walk_is_sweep]; rfl

/-- A callback that returns `SkipDir` for every entry, files included (guards "nonroot"/"nonroot"), is *not* the filter:
in a work_dir with a plain file "a" and a temp-named directory "crl_x_tmp" the file is visited first, `SkipDir` for a
non-directory makes Walk skip the rest of work_dir, and the temp-named directory survives (the walk changes nothing). -/
theorem skip_on_files_leaves_residue :
    walkSweep "nonroot" "nonroot" pathFacts residueFs = residueFs ∧
    walkSweep "nonroot" "nonroot" pathFacts residueFs ≠ sweep pathFacts residueFs :=
  Crv.Paths.skip_on_files_leaves_residue

/-- A callback that never returns `SkipDir` (guards "nonroot"/"never") is not the filter either: Walk descends into the
temp-named directory "crl_a_tmp" it has just removed, `lstat` fails there, the callback hands the error back and the walk
is over; the temp-named file "crl_b_tmp" behind it survives. (Without a temp-named *directory* in work_dir such a callback
does clean up: `Crv.Paths.walk_never_skip_without_temp_dirs`.) -/
theorem descent_into_removed_dir_leaves_residue :
    walkSweep "nonroot" "never" pathFacts abortFs = [([99, 114, 108, 95, 98, 95, 116, 109, 112], .file)] ∧
    sweep pathFacts abortFs = [] :=
  Crv.Paths.descent_into_removed_dir_leaves_residue

/-- At every crash point nothing outside the four names of the operation has changed (other locations' stores, foreign files). -/
theorem crash_others_untouched (sc : Scn) (fs : Fs) (steps : List Step)
    (hs : steps = loadSteps pathFacts sc ∨ steps = refreshSteps pathFacts sc) (k : Nat) (n : Name)
    (hn : n ∉ [sc.t, sc.s, sc.a, sc.id]) : Fs.get (crashAt k steps fs) n = Fs.get fs n := by
  rw [crashAt, get_run]
  rcases hs with rfl | rfl
  · exact (load_shape sc).touches.frame _ hn k
  · exact (refresh_shape sc).touches.frame _ hn k

/-! ### Non-vacuity: concrete scenarios, every crash point evaluated -/

section examples
def exOld : Doc := { tag := 1, serials := [10, 11], sigOk := true }
def exNew : Doc := { tag := 2, serials := [11, 12, 13], sigOk := true }
def exId : Name := hex [0xab, 0xcd]
def exScn (o : Origin) : Scn :=
  { disk := true, sigChecked := true, sigRequired := true, origin := o, id := exId, hasLoc := true, loc := 0,
    t := tmpName pathFacts 1, s := tmpName pathFacts 2, a := tmpName pathFacts 3 }
def exFs : Fs := [(exId, .dir (fullImage 0 exOld true))]

/-- the hypotheses of the theorems are satisfiable -/
example : CrashCtx (exScn (.doc exNew)) exFs := by
  refine ⟨⟨?_, ?_, ?_, ?_, ?_, ?_, ?_, ?_, ?_⟩, ?_, ?_, ?_, ?_⟩ <;> decide +kernel

/-- refresh with a good new document: the crash points yield old, not-loaded (between the renames) and new -/
example : ((List.range 40).map fun k =>
    let fs' := restart pathFacts exId (crashAt k (refreshSteps pathFacts (exScn (.doc exNew))) exFs)
    (probe fs' exId 10, probe fs' exId 12)).eraseDups
    = [(.revoked, .good), (.notLoaded, .notLoaded), (.good, .revoked)] := by decide +kernel

/-- refresh with a bad signature under verify: old at every crash point, and no temp name after restart -/
example : ((List.range 40).map fun k =>
    let fs' := restart pathFacts exId (crashAt k (refreshSteps pathFacts (exScn (.doc { exNew with sigOk := false }))) exFs)
    (probe fs' exId 10, probe fs' exId 12, fs'.names)).eraseDups = [(.revoked, .good, [exId])] := by decide +kernel
end examples

/-! Source fingerprints (`Crv/Proofs/Skeleton.lean`) re-exported into this namespace: a change to any of the fingerprinted Go
functions breaks an obligation of this property. -/
theorem repo_sources_as_transcribed : Crv.Generated.skeletonRepo = Crv.Skeleton.expectedRepo :=
  Crv.Skeleton.repo_sources_as_transcribed

theorem store_sources_as_transcribed : Crv.Generated.skeletonStore = Crv.Skeleton.expectedStore :=
  Crv.Skeleton.store_sources_as_transcribed

end Crv.Props.C12
