import Crv.Proofs.ReaderSafe
import Crv.Proofs.Skeleton
import Crv.Props.C04
/-!
C07 — Parser totality. Statements about the reader model (`Crv/Reader.lean`) instantiated with the
caps, masks and guards the translator regenerates from core/asn1parser and crl/crlreader on every run.
They quantify over **every** byte string and **every** behaviour of the trusted leaf decoders (`Oracle`).

Beyond the reader: the CRL-signer candidate search (`FindCertificateIssuerCandidates`), which runs on the parsed authority key
identifier of every CRL, never hits its nil-pointer dereference (`candidate_search_never_panics`, from C04).

Termination: every model function is a total Lean function (structural recursion, or well-founded
recursion on the length of the unread input for the entry loop), accepted by Lean's termination checker.
-/
namespace Crv.Props.C07
open Crv Crv.Generated

/-- The translator found a cap in front of every length-driven allocation. -/
theorem caps_present :
    structCap = some 81920 ∧ utcTimeCap = some 81920 ∧ bitStringCap = some 81920 ∧
    bigIntCap = some 81920 ∧ octetStringCap = some 81920 := by decide

/-- At most 15 length bytes are ever read for one length field. -/
theorem length_bytes_bounded (b : UInt8) : (b &&& lengthCountMask).toNat ≤ 15 := mask_le b

/-- Reading a CRL never panics, whatever the bytes and whatever the leaf decoders answer. -/
theorem no_panic (O : Oracle) (file : Bytes) : ¬ (match (readCRL O file).outcome with | .panic => True | _ => False) := by
  have h := (readCRL_safe O file).2
  cases hres : (readCRL O file).outcome with
  | panic => simp only [hres] at h
  | err e => exact id
  | ok r => exact id

/-- Every allocation the reader requests (`make([]byte, n)`) is bounded by a constant (80 KiB cap + header),
independently of any length field in the input. -/
theorem alloc_bounded (O : Oracle) (file : Bytes) :
    ∀ a ∈ (readCRL O file).allocs, a.size ≤ 81937 :=
  (readCRL_safe O file).1

/-- The entry loop consumes input in every iteration: its `stalled` exit is unreachable. -/
theorem entry_loop_never_stalls (O : Oracle) (file : Bytes) :
    ∀ e, (readCRL O file).outcome = .err e → e ≠ .stalled := by
  intro e he
  have h := (readCRL_safe O file).2
  rw [he] at h
  exact h

/-- Key identifiers reaching the chain matcher (`ParseOctetString` on an extension value): safe on every value. -/
theorem ski_value_safe (value : Bytes) :
    match parseOctetString { rest := value } with
    | .panic _ => False
    | .ok _ r => ∀ a ∈ r.allocs, a.size ≤ 81937
    | .err _ r => ∀ a ∈ r.allocs, a.size ≤ 81937 := by
  have h := safe_parseOctetString (A := anyQuery) _ (stable_allocOK _ _) (allocOK_init value)
  cases hres : parseOctetString { rest := value } with
  | ok a r => rw [hres] at h; exact h.1
  | err e r => rw [hres] at h; exact h.1
  | panic r => rw [hres] at h; exact h

/-- Name bytes reaching the chain matcher (`ParseRDNSequence` = `ReadStruct` on the raw name): safe on every value. -/
theorem rdn_value_safe (ok : Bytes → Bool) (value : Bytes) :
    match readStruct .rdn ok { rest := value } with
    | .panic _ => False
    | .ok _ r => ∀ a ∈ r.allocs, a.size ≤ 81937
    | .err _ r => ∀ a ∈ r.allocs, a.size ≤ 81937 := by
  have h := safe_readStruct (A := anyQuery) .rdn ok (fun _ _ => trivial) _ (stable_allocOK _ _) (allocOK_init value)
  cases hres : readStruct .rdn ok { rest := value } with
  | ok a r => rw [hres] at h; exact h.1
  | err e r => rw [hres] at h; exact h.1
  | panic r => rw [hres] at h; exact h

/-- CRL number value (`ReadBigInt` on the extension value): safe on every value. -/
theorem crl_number_value_safe (value : Bytes) :
    match readBigInt { rest := value } with
    | .panic _ => False
    | .ok _ r => ∀ a ∈ r.allocs, a.size ≤ 81937
    | .err _ r => ∀ a ∈ r.allocs, a.size ≤ 81937 := by
  have h := safe_readBigInt (A := anyQuery) _ (stable_allocOK _ _) (allocOK_init value)
  cases hres : readBigInt { rest := value } with
  | ok a r => rw [hres] at h; exact h.1
  | err e r => rw [hres] at h; exact h.1
  | panic r => rw [hres] at h; exact h

/-- A successfully read structure consumed at least one byte (progress of every loop built on it). -/
theorem struct_read_consumes (r : Rd) (f : Bytes) (r' : Rd) (h : readStructFrame r = .ok f r') :
    r'.rest.length < r.rest.length :=
  readStructFrame_shrinks h

/-- Re-export (`Crv.Props.C04.candidate_search_never_panics`): the CRL-signer candidate search never panics, for every CRL
issuer, every form of the authority key identifier (absent; any combination of key identifier, serial, issuer), every key
algorithm and every list of available certificates. It rests on the regenerated rule chain `candRules`: the issuer+serial rule,
whose loop calls `SerialNumber.Cmp(AuthorityCertSerialNumber)`, only fires when the serial is present. -/
theorem candidate_search_never_panics (crlIssuer : Nat) (aki : Option Cand.AKI) (alg : KeyAlg) (av : List Cand.Avail) :
    Cand.findCandidates crlIssuer aki alg av ≠ .panic :=
  Crv.Props.C04.candidate_search_never_panics crlIssuer aki alg av

-- Non-vacuity: the candidate search's panic outcome exists in the model and is reached by a rule chain whose issuer+serial
-- rule is not guarded by the serial (`Crv.Props.C04.unguarded_serial_rule_panics`).
example : Cand.findCandidatesWith [("serial+issuer", ["issuer"]), ("keyid", ["keyid"])] true 7 (some ⟨some 9, none, some 7⟩) .ecdsa
    [⟨⟨1, 7, 7, 1, some 9, .ecdsa, some true⟩, .trusted⟩] = .panic :=
  Crv.Props.C04.unguarded_serial_rule_panics 7 (some 9) 7 .ecdsa _ (by simp)

-- Non-vacuity: the panic outcome exists in the model (negative `make` size) and hostile inputs are rejected.
example : (match readN (-1) { rest := [] } with | .panic _ => true | _ => false) = true := by decide
example : narrow64 (2 ^ 63) < 0 := by decide

/-! Source fingerprints (`Crv/Proofs/Skeleton.lean`) re-exported into this namespace: a change to any of the fingerprinted Go
functions breaks an obligation of this property. -/
theorem reader_sources_as_transcribed : Crv.Generated.skeletonReader = Crv.Skeleton.expectedReader :=
  Crv.Skeleton.reader_sources_as_transcribed

theorem pem_sources_as_transcribed : Crv.Generated.skeletonPem = Crv.Skeleton.expectedPem :=
  Crv.Skeleton.pem_sources_as_transcribed

theorem chunk_sources_as_transcribed : Crv.Generated.skeletonChunk = Crv.Skeleton.expectedChunk :=
  Crv.Skeleton.chunk_sources_as_transcribed

end Crv.Props.C07
