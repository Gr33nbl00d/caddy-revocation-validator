import Crv.Proofs.ReaderRoundTrip
import Crv.Proofs.ReaderEnvelope
import Crv.Proofs.Skeleton
import Crv.Props.C06Pem
import Crv.ReaderFile
import Crv.Props.C06Chunk
/-!
C06 — the streaming reader agrees with the whole-document encoding, for every document of the
supported profile (`WF`): every entry count, every length size class, v1/v2, with or without
nextUpdate / revokedCertificates / crlExtensions. `enc d` is the DER document; the reader model
(`readCRL`) is instantiated with the caps, masks and guards regenerated from the source on every run.
Leaf decoding is the `Oracle` (real `encoding/asn1`, tied by the correspondence check).
-/
namespace Crv.Props.C06
open Crv Crv.Generated

/-- **Round trip.** Reading `enc d` succeeds, hands the consumer exactly `eventsOf d` (start with issuer and
times, every entry in order, CRL number), reports the signature bits and extension list, consumes the whole
document, and the hashed region is exactly the DER tbsCertList (header included, nothing before or after). -/
theorem read_enc (O : Oracle) (d : Doc) (oid : List Nat) (h : HashAlg) (es : Option (List Ext)) (num : Option Nat)
    (wf : WF O d oid h es num) :
    (readCRL O (enc d)).events = eventsOf d num ∧
    (readCRL O (enc d)).finalPos = (enc d).length ∧
    ∃ res, (readCRL O (enc d)).outcome = .ok res ∧ res = resultOf d oid h es := by
  obtain ⟨_, hpre, _⟩ := ends_prescan O d oid h es num wf
  obtain ⟨r1, hp, _⟩ := hpre { rest := enc d } rfl
  obtain ⟨c', hbody, hev, hpos⟩ := ends_readBody O d oid h es num wf
  obtain ⟨r2, hb, hc⟩ := hbody { rest := enc d } rfl
  unfold readCRL
  simp only [hp, hb]
  rw [← hc] at hev hpos
  exact ⟨hev, hpos, _, rfl, rfl⟩

/-- The digest input is the DER tbsCertList: any hash function applied to the reported region equals the
hash of `encTbs d`, under the hash the CRL's own algorithm identifier declares. -/
theorem digest_is_over_tbs (O : Oracle) (d : Doc) (oid : List Nat) (h : HashAlg) (es : Option (List Ext)) (num : Option Nat)
    (wf : WF O d oid h es num) (hashFn : HashAlg → Bytes → Bytes) :
    ∃ res, (readCRL O (enc d)).outcome = .ok res ∧
      hashFn res.hashAlg res.hashRegion = hashFn h (encTbs d) ∧ lookupHash oid = some res.hashAlg := by
  obtain ⟨_, _, res, hres, heq⟩ := read_enc O d oid h es num wf
  refine ⟨res, hres, ?_, ?_⟩
  · rw [heq]; rfl
  · rw [heq]; exact wf.hashOk

/-- Every entry of the document reaches the consumer, in order, wherever it sits and however many there are. -/
theorem entries_in_order (O : Oracle) (d : Doc) (oid : List Nat) (h : HashAlg) (es : Option (List Ext)) (num : Option Nat)
    (wf : WF O d oid h es num) (l : List Bytes) (hl : d.entries = some l) :
    (readCRL O (enc d)).events =
      [.start (seqOf d.issuer) d.thisUpdate d.nextUpdate] ++ l.map (fun e => Event.insert (seqOf e)) ++ [.extMeta num] := by
  rw [(read_enc O d oid h es num wf).1]
  simp only [eventsOf, hl, entryEvents]

theorem entry_reaches_consumer (O : Oracle) (d : Doc) (oid : List Nat) (h : HashAlg) (es : Option (List Ext)) (num : Option Nat)
    (wf : WF O d oid h es num) (l : List Bytes) (hl : d.entries = some l) (e : Bytes) (he : e ∈ l) :
    Event.insert (seqOf e) ∈ (readCRL O (enc d)).events := by
  rw [entries_in_order O d oid h es num wf l hl]
  simp only [List.mem_append, List.mem_map, List.mem_cons]
  exact Or.inl (Or.inr ⟨e, he, rfl⟩)

/-- No entry list ⇒ no insert event (v1 CRLs and CRLs without extensions included). -/
theorem no_entries_no_inserts (O : Oracle) (d : Doc) (oid : List Nat) (h : HashAlg) (es : Option (List Ext)) (num : Option Nat)
    (wf : WF O d oid h es num) (hl : d.entries = none) :
    (readCRL O (enc d)).events = [.start (seqOf d.issuer) d.thisUpdate d.nextUpdate, .extMeta num] := by
  rw [(read_enc O d oid h es num wf).1]
  simp only [eventsOf, hl, List.append_nil, List.cons_append, List.nil_append]

theorem criticalGate_sound (es : List Ext) (hg : criticalGate es = true) :
    ∀ e ∈ es, e.critical = true → e.oid ∈ handledCriticalOids := by
  induction es with
  | nil => intro e he; cases he
  | cons x xs ih =>
    intro e he hc
    simp only [criticalGate, Bool.and_eq_true, Bool.or_eq_true, Bool.not_eq_true'] at hg
    rcases List.mem_cons.mp he with rfl | hmem
    · rcases hg.1 with hf | hh
      · rw [hc] at hf; cases hf
      · simpa using hh
    · exact ih hg.2 e hmem hc

/-- **Critical-extension gate, for every input:** whenever a read succeeds, every critical extension the leaf
decoder reported has a handled OID. A CRL with an unimplemented critical extension is therefore never accepted. -/
theorem critical_gate (O : Oracle) (file : Bytes) (res : ReadResult) (hok : (readCRL O file).outcome = .ok res)
    (es : List Ext) (hes : res.exts = some es) :
    ∀ e ∈ es, e.critical = true → e.oid ∈ handledCriticalOids :=
  criticalGate_sound es ((readCRL_post hok).1 es hes)

/-- The handled set is what the source says. -/
theorem handled_set : handledCriticalOids = [[2, 5, 29, 20], [2, 5, 29, 35]] := by decide

/-- Version values: `versionOf` does not wrap and the limit is v2. -/
theorem version_no_wrap (b : UInt8) : versionOf b = b.toNat + 1 := rfl
theorem version_limit : maxVersion = 2 := rfl

-- Non-vacuity: a concrete v2 document with two entries and extensions satisfies `WF` for a concrete oracle.
def exOracle : Oracle :=
  { algOid := fun _ => some [1, 2, 840, 113549, 1, 1, 11], rdnOk := fun _ => true, utcOk := fun _ => true,
    entryOk := fun _ => true, exts := fun _ => some [⟨[2, 5, 29, 20], false, [2, 1, 7]⟩] }

def exDoc : Doc :=
  { version := some 1, innerAlg := [6, 1, 42], issuer := [49, 0], thisUpdate := [50, 52], nextUpdate := some [50, 53],
    entries := some [[2, 1, 5, 23, 0], [2, 1, 6, 23, 0]], exts := some [48, 0], outerAlg := [6, 1, 42], sig := [1, 2, 3] }

theorem exDoc_wf : WF exOracle exDoc [1, 2, 840, 113549, 1, 1, 11] .sha256
    (some [⟨[2, 5, 29, 20], false, [2, 1, 7]⟩]) (some 7) :=
  { versionOk := by decide, extsV2 := by decide, innerLen := by decide, issuerLen := by decide, thisLen := by decide
    nextLen := by intro t h; cases h; decide
    entryLen := by
      intro l h e he; cases h
      simp only [List.mem_cons, List.not_mem_nil, or_false] at he
      rcases he with rfl | rfl <;> decide
    extsLen := by intro x h; cases h; decide
    outerLen := by decide, sigLen := by decide, total := by decide
    algSame := rfl, algOk := rfl, hashOk := by decide, issuerOk := rfl, thisOk := rfl
    nextOk := by intro t _; rfl
    entriesOk := by intro l _ e _; rfl
    extsOk := ⟨_, rfl, rfl, by decide, by decide⟩ }

example : (readCRL exOracle (enc exDoc)).events =
    [.start (seqOf [49, 0]) [50, 52] (some [50, 53]), .insert (seqOf [2, 1, 5, 23, 0]), .insert (seqOf [2, 1, 6, 23, 0]),
     .extMeta (some 7)] :=
  (read_enc exOracle exDoc _ _ _ _ exDoc_wf).1

theorem read_pem (O : Oracle) (der : List UInt8) (crlf : Bool) (label : List UInt8) (hl : Pem.labelOk label)
    (hlen : label.length ≤ 4078) : readCRLFile O (Pem.pemEncode crlf label der) = readCRL O der := by
  unfold readCRLFile fileBytes
  rw [C06.Pem.pem_detected crlf label der hl hlen]
  simp only [↓reduceIte]
  rw [C06.Pem.pem_round_trip crlf label der hl]

/-- **Encoding independence.** The PEM form (64-column base64 between BEGIN/END lines, LF or CRLF) of every document of the
profile is detected as PEM and read exactly like its DER form; a DER file is read as it is. With `read_enc` this gives the
round trip for all three encodings. -/
theorem read_pem_enc (O : Oracle) (d : Doc) (crlf : Bool) (label : List UInt8) (hl : Pem.labelOk label)
    (hlen : label.length ≤ 4078) :
    readCRLFile O (Pem.pemEncode crlf label (enc d)) = readCRL O (enc d) :=
  read_pem O (enc d) crlf label hl hlen

theorem read_der_enc (O : Oracle) (d : Doc) : readCRLFile O (enc d) = readCRL O (enc d) := by
  unfold readCRLFile fileBytes
  have h : ∃ t, enc d = 0x30 :: t := ⟨_, rfl⟩
  obtain ⟨t, ht⟩ := h
  rw [ht, C06.Pem.der_not_pem t]
  rfl

/-- LF and CRLF PEM files of the same document are read alike (whatever the document). -/
theorem read_pem_lf_crlf (O : Oracle) (der label : List UInt8) (hl : Pem.labelOk label) (hlen : label.length ≤ 4078) :
    readCRLFile O (Pem.pemEncode true label der) = readCRLFile O (Pem.pemEncode false label der) :=
  (read_pem O der true label hl hlen).trans (read_pem O der false label hl hlen).symm

/-! Source fingerprints (`Crv/Proofs/Skeleton.lean`) re-exported into this namespace: a change to any of the fingerprinted Go
functions breaks an obligation of this property. -/
theorem reader_sources_as_transcribed : Crv.Generated.skeletonReader = Crv.Skeleton.expectedReader :=
  Crv.Skeleton.reader_sources_as_transcribed

theorem pem_sources_as_transcribed : Crv.Generated.skeletonPem = Crv.Skeleton.expectedPem :=
  Crv.Skeleton.pem_sources_as_transcribed

theorem chunk_sources_as_transcribed : Crv.Generated.skeletonChunk = Crv.Skeleton.expectedChunk :=
  Crv.Skeleton.chunk_sources_as_transcribed

end Crv.Props.C06
