import Crv.Proofs.StoreLdb
import Crv.Proofs.Skeleton
/-!
C18 — Both storage backends implement the same abstract map and lose nothing.

Models: `Crv.Store.MapStore` (map.go), `Crv.Store.Ldb` over `Crv.Store.Disk` (leveldb.go), specification
`Crv.Store.Abs` (partial map (issuer, serial) → entry, four metadata slots). Keys are hashed with FNV-1a 64
exactly as `hashing.Sum64`; the "up to hash collisions" caveat is the explicit hypothesis `CollisionFree`
over all key strings the operation sequence touches, reserved keys included.
Values are the serializer's byte strings; that the (de)serializer returns the entry unchanged is the
correspondence run's business (real `encoding/asn1`, all value shapes).
-/
namespace Crv.Props.C18
open Crv Crv.Store

/-- Memory backend refines the abstract map: same observations (write results, lookups, metadata reads)
on every operation sequence whose key strings do not collide under FNV-1a 64. -/
theorem map_refines (dec : Kind → Val → Bool) (ops : List Op) (h : CollisionFree (keysOf ops)) :
    (runMap dec MapStore.new ops).2 = (runAbs dec Abs.empty ops).2 :=
  map_sim dec h ops [] Abs.empty (rel_empty _) fun _ hk => List.mem_append_right _ hk

/-- The two backends answer every operation sequence alike, whether or not hashed keys collide: both keep the same
content. -/
theorem backends_agree (dec : Kind → Val → Bool) (ident : Nat) (ops : List Op) :
    (runLdb dec (Ldb.fresh ident).1 (Ldb.fresh ident).2 ops).2 = (runMap dec MapStore.new ops).2 := by
  obtain ⟨_, hr, _⟩ := ldb_sim dec ops (Ldb.fresh_live ident)
  rw [hr]
  rfl

/-- Disk backend refines the abstract map, including `replace` (directory swap) and close + reopen. -/
theorem ldb_refines (dec : Kind → Val → Bool) (ident : Nat) (ops : List Op) (h : CollisionFree (keysOf ops)) :
    (runLdb dec (Ldb.fresh ident).1 (Ldb.fresh ident).2 ops).2 = (runAbs dec Abs.empty ops).2 :=
  (backends_agree dec ident ops).trans (map_refines dec ops h)

/-- The two backends are observationally indistinguishable. -/
theorem backends_equal (dec : Kind → Val → Bool) (ident : Nat) (ops : List Op) (h : CollisionFree (keysOf ops)) :
    (runMap dec MapStore.new ops).2 = (runLdb dec (Ldb.fresh ident).1 (Ldb.fresh ident).2 ops).2 :=
  (backends_agree dec ident ops).symm  -- `h` is not needed

/-- What the specification says a lookup returns after the writes `ws`: revoked exactly when the pair was
written, with the value of the last such write unchanged (or an error if the deserializer rejects it). -/
theorem abs_lookup_spec (dec : Kind → Val → Bool) (ws : List (AKey × Val)) (i : List UInt8) (s : Int) :
    (Abs.empty.fill ws).lookup dec i s =
      match lastWrite (.ent i s) none ws with
      | none => .absent
      | some v => if dec .entry v then .revoked v else .error := by
  rw [Abs.lookup, show (Abs.empty.fill ws).ent i s = _ from Abs.fill_get ws Abs.empty (.ent i s)]
  rfl

/-- Metadata reads back equal to what was written last. -/
theorem abs_slot_spec (dec : Kind → Val → Bool) (ws : List (AKey × Val)) (k : AKey) :
    (Abs.empty.fill ws).slot dec k =
      match lastWrite k none ws with
      | none => none
      | some v => if dec k.kind v then some v else none := by
  rw [Abs.slot, Abs.fill_get, show Abs.empty.get k = none by cases k <;> rfl]
  rfl

/-!
### Metadata read-back

C18: *metadata, signer certificate and locations read back equal to what was written*. The store part holds for every
value the deserializer accepts (`metadata_readback`, and through `map_refines`/`ldb_refines` on both backends). The
serializer's own part concerns one value shape: a `CRLMetaInfo` whose `NextUpdate` lies outside 1950..2049 is written as
GeneralizedTime under the implicit tag [0]; `DeserializeMetaInfo` reads such a value through its GeneralizedTime fallback
(fact `metaGeneralizedFallback`, regenerated from asn1serializer.go; the year rule of the mini-model is diffed against the
real serializer for the years 0, 1..9999 on every run). Before the repair (known_findings.json, `fixed`) the value was
stored but unreadable.
-/

/-- Whatever was written last to a slot is read back unchanged, provided the deserializer accepts it. -/
theorem metadata_readback (dec : Kind → Val → Bool) (ws : List (AKey × Val)) (k : AKey) (v : Val)
    (hlast : lastWrite k none ws = some v) (hdec : dec k.kind v = true) :
    (Abs.empty.fill ws).slot dec k = some v := by
  rw [abs_slot_spec, hlast]
  simp [hdec]

/-- The serializer's part: every `NextUpdate` (absent, UTCTime years, GeneralizedTime years) is read back. -/
theorem meta_nextUpdate_readable (y : Option Nat) : metaNextUpdateReadable y = true := by
  cases y with
  | none => rfl
  | some year => simp [metaNextUpdateReadable, Generated.Store.metaGeneralizedFallback]

/-- What the fallback is needed for: without it exactly the years outside 1950..2049 would be unreadable. -/
theorem meta_nextUpdate_form (year : Nat) :
    (marshalTimeForm year == .utc) = decide (1950 ≤ year ∧ year < 2050) := by
  unfold marshalTimeForm
  by_cases h : 1950 ≤ year ∧ year < 2050 <;> simp [h]

example : metaNextUpdateReadable (some 2050) = true ∧ marshalTimeForm 2050 = .generalized := by decide +kernel

/-- Replace is replace, not merge: after `replace ws` nothing of the earlier content is visible. -/
theorem replace_discards (dec : Kind → Val → Bool) (a : Abs) (ws : List (AKey × Val)) :
    (a.step dec (.replace ws)).1 = Abs.empty.fill ws := rfl

/-- **Soundness without any collision hypothesis** (used by C01): once a pair was inserted, a lookup of it is
never answered `absent` — memory backend, disk backend (filled store), and both after `replace`. A colliding
later write can only turn the answer into another entry or an error, never into "not revoked". -/
theorem inserted_never_absent (dec : Kind → Val → Bool) (ws : List (AKey × Val)) (i : List UInt8) (s : Int) (v : Val)
    (hin : (AKey.ent i s, v) ∈ ws) :
    (MapStore.new.fill ws).lookup dec i s ≠ .absent ∧
    (∀ ident, let (d, h) := Ldb.fresh ident; h.lookup dec (h.fill d ws) i s ≠ .absent) ∧
    (∀ (m : MapStore), (m.step dec (.replace ws)).1.lookup dec i s ≠ .absent) ∧
    (∀ ident (pre : List Op) (_ : CollisionFree (keysOf pre)),
      let ((d, h), _) := runLdb dec (Ldb.fresh ident).1 (Ldb.fresh ident).2 pre
      let (d', h', _) := h.step dec d (.replace ws)
      h'.lookup dec d' i s ≠ .absent) := by
  -- in both backends the content after the writes `ws` is `afill [] ws`, and there the hashed key is bound
  have hb : MapStore.lookup dec { map := some (afill [] ws) } i s ≠ .absent :=
    MapStore.lookup_ne_absent dec (aget_afill_isSome ws [] _ (.inr ⟨_, hin, rfl⟩))
  refine ⟨?_, ?_, ?_, ?_⟩
  · rwa [MapStore.new, MapStore.fill_some]
  · intro ident
    exact fun h => hb ((((Ldb.fresh_live ident).fill_holds ws).lookup dec i s).symm.trans h)
  · intro m
    rwa [MapStore.step_replace]
  · intro ident pre _
    obtain ⟨d, hr, L⟩ := ldb_sim dec pre (Ldb.fresh_live ident)
    obtain ⟨d', hs, L'⟩ := L.step dec (.replace ws)
    simp only [hr, hs, L'.lookup]
    exact hb

/-- `IsEmpty` in the states in which the repository asks: a fresh store is empty for both backends, and once
`StartUpdateCrl` wrote the meta record (and nothing replaced the content since) neither is. In other states
the two implementations differ by design (memory: any key; disk: the meta key). -/
theorem isEmpty_fresh (ident : Nat) :
    MapStore.new.isEmpty = true ∧ (Ldb.fresh ident).2.isEmpty (Ldb.fresh ident).1 = true :=
  ⟨rfl, (Ldb.fresh_live ident).isEmpty⟩

theorem isEmpty_after_start (ws : List (AKey × Val)) (v : Val) (hin : (AKey.minfo, v) ∈ ws) (ident : Nat) :
    (MapStore.new.fill ws).isEmpty = false ∧
    (let (d, h) := Ldb.fresh ident; h.isEmpty (h.fill d ws) = false) := by
  have hb := aget_afill_isSome ws [] (hkey Generated.Store.metaKey) (.inr ⟨_, hin, rfl⟩)
  constructor
  · rw [MapStore.new, MapStore.fill_some, MapStore.isEmpty]
    cases hm : afill [] ws with
    | nil => rw [hm] at hb; exact nomatch hb
    | cons => rfl
  · refine ((Ldb.fresh_live ident).fill_holds ws).isEmpty.trans ?_
    cases hg : aget (afill [] ws) (hkey Generated.Store.metaKey) with
    | none => rw [hg] at hb; exact nomatch hb
    | some _ => rfl

-- Non-vacuity: a concrete history on both backends (insert, collision-free keys, replace, reopen, lookups).
section Examples
def decAll : Kind → Val → Bool := fun _ _ => true
def exOps : List Op :=
  [.w .minfo [1], .w (.ent [67, 78] 5) [9, 9], .w (.ent [67, 78] (-5)) [8], .rd (.ent [67, 78] 5), .rd (.ent [67, 78] 6),
   .rd .minfo, .rd .ext, .replace [(.minfo, [2]), (.ent [67] 7, [7])], .reopen, .rd (.ent [67, 78] 5), .rd (.ent [67] 7), .rd .minfo]

example : CollisionFree (keysOf exOps) := by decide +kernel
example : (runMap decAll MapStore.new exOps).2 =
    [.w .ok, .w .ok, .w .ok, .look (.revoked [9, 9]), .look .absent, .slot (some [1]), .slot none, .w .ok, .w .ok,
     .look .absent, .look (.revoked [7]), .slot (some [2])] := by decide +kernel
example : (runLdb decAll (Ldb.fresh 3).1 (Ldb.fresh 3).2 exOps).2 = (runMap decAll MapStore.new exOps).2 := by decide +kernel
end Examples

/-! Source fingerprints (`Crv/Proofs/Skeleton.lean`) re-exported into this namespace: a change to any of the fingerprinted Go
functions breaks an obligation of this property. -/
theorem store_sources_as_transcribed : Crv.Generated.skeletonStore = Crv.Skeleton.expectedStore :=
  Crv.Skeleton.store_sources_as_transcribed

end Crv.Props.C18
