import Crv.Persist
import Crv.Proofs.Repo
import Crv.Props.C06
import Crv.Props.C18
/-!
C01, end to end through the first two layers: reader → persister → store.

`Crv.Props.C06` says which callbacks the reader makes for `enc d`; `Crv.Persist.writesOf` turns callbacks into store writes
(`CRLPersisterProcessor`, `InsertRevokedCert`); `Crv.Props.C18.inserted_never_absent` says an inserted pair is never
reported absent. Here the three are composed: for every document of the profile, every entry, wherever it sits in the
list and however long the list is, DER or PEM (LF / CRLF), memory or disk backend, filled directly or swapped in by
`Update` (`replace`, the way `loadCRL` / `updateCrlEntry` bring a temporary store into force): a lookup of (CRL issuer,
serial of the entry) is never answered "not revoked". No hash-collision hypothesis.

`dec : EntryDec` are the leaf functions between callback and write (name string, serial, serialized values);
`sdec : Kind → Val → Bool` is the stores' deserializer oracle.
-/
namespace Crv.Props.C01.E2E
open Crv Crv.Store Crv.Persist

/-- The issuer name string under which every entry of `d` is stored: `CRLEntry.Issuer` is the issuer of the CRL. -/
def issuerOf (dec : EntryDec) (d : Doc) : List UInt8 := dec.issuer (seqOf d.issuer)

/-- **Exact write list** of an accepted document: the meta record, one write per listed entry in list order under
(CRL issuer, entry serial), the extended meta record — nothing else, nothing missing. -/
theorem writes_of_enc (O : Oracle) (d : Doc) (oid : List Nat) (h : HashAlg) (es : Option (List Ext)) (num : Option Nat)
    (wf : WF O d oid h es num) (dec : EntryDec) (l : List Bytes) (hl : d.entries = some l) :
    writesOf dec (readCRL O (enc d)).events =
      (AKey.minfo, dec.minfo (seqOf d.issuer) d.thisUpdate d.nextUpdate) ::
        (l.map (fun e => (AKey.ent (issuerOf dec d) (dec.serial (seqOf e)), dec.value (seqOf e))) ++ [(AKey.ext, dec.ext num)]) := by
  rw [C06.entries_in_order O d oid h es num wf l hl]
  have hm : l.map (fun e => Event.insert (seqOf e)) = (l.map seqOf).map Event.insert := by
    rw [List.map_map]; rfl
  rw [hm, writesOf_crl, List.map_map]
  rfl

/-- Without a revokedCertificates field only the two metadata records are written. -/
theorem writes_of_enc_no_entries (O : Oracle) (d : Doc) (oid : List Nat) (h : HashAlg) (es : Option (List Ext))
    (num : Option Nat) (wf : WF O d oid h es num) (dec : EntryDec) (hl : d.entries = none) :
    writesOf dec (readCRL O (enc d)).events =
      [(AKey.minfo, dec.minfo (seqOf d.issuer) d.thisUpdate d.nextUpdate), (AKey.ext, dec.ext num)] := by
  rw [C06.no_entries_no_inserts O d oid h es num wf hl]
  rfl

/-- Every listed entry is written, under the CRL's issuer and its own serial, with its own serialized value. -/
theorem listed_entry_is_written (O : Oracle) (d : Doc) (oid : List Nat) (h : HashAlg) (es : Option (List Ext))
    (num : Option Nat) (wf : WF O d oid h es num) (dec : EntryDec) (l : List Bytes) (hl : d.entries = some l)
    (e : Bytes) (he : e ∈ l) :
    (AKey.ent (issuerOf dec d) (dec.serial (seqOf e)), dec.value (seqOf e)) ∈ writesOf dec (readCRL O (enc d)).events := by
  rw [writes_of_enc O d oid h es num wf dec l hl]
  refine List.mem_cons_of_mem _ (List.mem_append_left _ ?_)
  exact List.mem_map.mpr ⟨e, he, rfl⟩

/-- Precision: every entry write comes from an entry of the document (and carries the CRL's issuer). -/
theorem nothing_else_is_written (O : Oracle) (d : Doc) (oid : List Nat) (h : HashAlg) (es : Option (List Ext))
    (num : Option Nat) (wf : WF O d oid h es num) (dec : EntryDec) (l : List Bytes) (hl : d.entries = some l)
    (i : List UInt8) (s : Int) (v : Val)
    (hw : (AKey.ent i s, v) ∈ writesOf dec (readCRL O (enc d)).events) :
    i = issuerOf dec d ∧ ∃ e ∈ l, s = dec.serial (seqOf e) ∧ v = dec.value (seqOf e) := by
  rw [writes_of_enc O d oid h es num wf dec l hl] at hw
  simp only [List.mem_cons, List.mem_append, List.mem_map, Prod.mk.injEq, reduceCtorEq, false_and,
    false_or, or_false, List.not_mem_nil, AKey.ent.injEq] at hw
  obtain ⟨e, he, ⟨hi, hs⟩, hv⟩ := hw
  exact ⟨hi.symm, e, he, hs.symm, hv.symm⟩

/-- … and without a revokedCertificates field no entry is written at all. -/
theorem nothing_written_without_list (O : Oracle) (d : Doc) (oid : List Nat) (h : HashAlg) (es : Option (List Ext))
    (num : Option Nat) (wf : WF O d oid h es num) (dec : EntryDec) (hl : d.entries = none)
    (i : List UInt8) (s : Int) (v : Val) :
    (AKey.ent i s, v) ∉ writesOf dec (readCRL O (enc d)).events := by
  rw [writes_of_enc_no_entries O d oid h es num wf dec hl]
  simp

/-- What "the store filled with `ws` never reports (i, s) absent" means, for the ways a write list reaches a live store:
a fresh memory store, a fresh disk store, a memory store replaced by `Update`, a disk store with any collision-free
history replaced by `Update` (directory swap). Verbatim the conclusion of `C18.inserted_never_absent`, so
`listed_entry_found_der` is a direct application. -/
def NeverAbsent (sdec : Kind → Val → Bool) (ws : List (AKey × Val)) (i : List UInt8) (s : Int) : Prop :=
  (MapStore.new.fill ws).lookup sdec i s ≠ .absent ∧
  (∀ ident, let (d, h) := Ldb.fresh ident; h.lookup sdec (h.fill d ws) i s ≠ .absent) ∧
  (∀ (m : MapStore), (m.step sdec (.replace ws)).1.lookup sdec i s ≠ .absent) ∧
  (∀ ident (pre : List Op) (_ : CollisionFree (keysOf pre)),
    let ((d, h), _) := runLdb sdec (Ldb.fresh ident).1 (Ldb.fresh ident).2 pre
    let (d', h', _) := h.step sdec d (.replace ws)
    h'.lookup sdec d' i s ≠ .absent)

/-- **Reader → persister → store, DER.** After the writes of `enc d` reached a store — memory or disk, directly or by
`Update` — no listed entry is reported absent, wherever it sits in the list and whatever the list size. -/
theorem listed_entry_found_der (O : Oracle) (d : Doc) (oid : List Nat) (h : HashAlg) (es : Option (List Ext))
    (num : Option Nat) (wf : WF O d oid h es num) (dec : EntryDec) (sdec : Kind → Val → Bool)
    (l : List Bytes) (hl : d.entries = some l) (e : Bytes) (he : e ∈ l) :
    NeverAbsent sdec (writesOf dec (readCRL O (enc d)).events) (issuerOf dec d) (dec.serial (seqOf e)) :=
  C18.inserted_never_absent sdec _ _ _ _ (listed_entry_is_written O d oid h es num wf dec l hl e he)

/-- The two plain-fill conjuncts of `listed_entry_found_der`, spelled out. -/
theorem listed_entry_found_der_fill (O : Oracle) (d : Doc) (oid : List Nat) (h : HashAlg) (es : Option (List Ext))
    (num : Option Nat) (wf : WF O d oid h es num) (dec : EntryDec) (sdec : Kind → Val → Bool)
    (l : List Bytes) (hl : d.entries = some l) (e : Bytes) (he : e ∈ l) :
    (MapStore.new.fill (writesOf dec (readCRL O (enc d)).events)).lookup sdec (issuerOf dec d) (dec.serial (seqOf e)) ≠ .absent ∧
    ∀ ident, (Ldb.fresh ident).2.lookup sdec
      ((Ldb.fresh ident).2.fill (Ldb.fresh ident).1 (writesOf dec (readCRL O (enc d)).events))
      (issuerOf dec d) (dec.serial (seqOf e)) ≠ .absent :=
  let r := listed_entry_found_der O d oid h es num wf dec sdec l hl e he
  ⟨r.1, r.2.1⟩

/-- **Reader → persister → store, PEM file** (LF or CRLF line ends, every admissible label): the same. -/
theorem listed_entry_found_pem (O : Oracle) (d : Doc) (oid : List Nat) (h : HashAlg) (es : Option (List Ext))
    (num : Option Nat) (wf : WF O d oid h es num) (dec : EntryDec) (sdec : Kind → Val → Bool)
    (crlf : Bool) (label : List UInt8) (hlab : Pem.labelOk label) (hlen : label.length ≤ 4078)
    (l : List Bytes) (hl : d.entries = some l) (e : Bytes) (he : e ∈ l) :
    NeverAbsent sdec (writesOf dec (readCRLFile O (Pem.pemEncode crlf label (enc d))).events)
      (issuerOf dec d) (dec.serial (seqOf e)) := by
  rw [C06.read_pem_enc O d crlf label hlab hlen]
  exact listed_entry_found_der O d oid h es num wf dec sdec l hl e he

/-- … and a DER file read through the file front end (`IsPemFile` says no). -/
theorem listed_entry_found_der_file (O : Oracle) (d : Doc) (oid : List Nat) (h : HashAlg) (es : Option (List Ext))
    (num : Option Nat) (wf : WF O d oid h es num) (dec : EntryDec) (sdec : Kind → Val → Bool)
    (l : List Bytes) (hl : d.entries = some l) (e : Bytes) (he : e ∈ l) :
    NeverAbsent sdec (writesOf dec (readCRLFile O (enc d)).events) (issuerOf dec d) (dec.serial (seqOf e)) := by
  rw [C06.read_der_enc O d]
  exact listed_entry_found_der O d oid h es num wf dec sdec l hl e he

/-- The PEM file causes exactly the writes of the DER document (so `nothing_else_is_written` carries over as well). -/
theorem writes_of_pem (O : Oracle) (d : Doc) (dec : EntryDec) (crlf : Bool) (label : List UInt8)
    (hlab : Pem.labelOk label) (hlen : label.length ≤ 4078) :
    writesOf dec (readCRLFile O (Pem.pemEncode crlf label (enc d))).events = writesOf dec (readCRL O (enc d)).events := by
  rw [C06.read_pem_enc O d crlf label hlab hlen]

/-!
### Rejected input

For an arbitrary `file` whose read does not end in `.ok`, the callback sequence is *not* empty in general: the reader
forwards `start` and every entry before it reaches the critical-extension gate, the envelope check or the end of a truncated
file (`rejected_after_all_entries_forwarded` below is such a run). What is true by the definition of `readCRL`: a failure
of the pre-scan means no callback was made. That the writes of a rejected read never count is a fact about the repository,
not about the reader: `loadCRL` / `updateCrlEntry` parse into a temporary store and drop it on any error. In `Crv.Repo`
the reader's verdict is the environment value `Served.garbage`; `stage` then yields `.parseFail` without a store, and both
intake paths leave the state — entries, persisted directories, acceptance log — exactly as it was.
-/

/-- Did the pre-scan (first pass of `ReadCRL`) succeed on `file`? -/
def prescanOk (O : Oracle) (file : Bytes) : Bool :=
  match prescan O { rest := file } with
  | .ok _ _ => true
  | _ => false

/-- A failing pre-scan (first pass) makes no callback, for every input. -/
theorem prescan_failure_no_events (O : Oracle) (file : Bytes) (hp : prescanOk O file = false) :
    (readCRL O file).events = [] := by
  unfold prescanOk at hp
  unfold readCRL
  cases hpre : prescan O { rest := file } with
  | err e r => rfl
  | panic r => rfl
  | ok p r => simp [hpre] at hp

theorem prescan_failure_no_writes (O : Oracle) (file : Bytes) (dec : EntryDec) (hp : prescanOk O file = false) :
    writesOf dec (readCRL O file).events = [] := by
  rw [prescan_failure_no_events O file hp]; rfl

/-- A rejected document yields no store in the repository model, whatever the mode and the candidates. -/
theorem rejected_stage (m : SigMode) (honour : Bool) (cands : List Repo.Signer) :
    Repo.stage m honour .garbage cands = .parseFail := (Repo.stage_fail_not_doc m honour cands).2

/-- First load of a rejected document: error, state unchanged. -/
theorem rejected_load_changes_nothing (s : Repo.State) (loc : Repo.Loc) (e : Repo.Entry) (cands : List Repo.Signer)
    (hs : Repo.servedAt s loc = .garbage) : Repo.loadCRL s loc e cands = (s, .err) := by
  fun_cases Repo.loadCRL s loc e cands
  case case2 hst _ => rw [hs] at hst; cases hst
  all_goals rfl

/-- Refresh with a rejected document: error, state unchanged — the list in force stays in force. -/
theorem rejected_refresh_changes_nothing (s : Repo.State) (loc : Repo.Loc) (e : Repo.Entry)
    (newCands : Option (List Repo.Signer)) (hs : Repo.servedAt s loc = .garbage) :
    Repo.updateCrlEntry s loc e newCands = (s, .err) := by
  fun_cases Repo.updateCrlEntry s loc e newCands
  case case3 hst _ => rw [hs] at hst; cases hst
  case case4 hst => rw [hs] at hst; cases hst
  all_goals rfl

/-! ### Non-vacuity -/
section Examples

/-- A concrete decoder for the entries of `C06.exDoc` (`30 05 02 01 <serial> 17 00`): the name string is the frame itself,
the serial is the INTEGER's single content byte, the serialized values are the frames. -/
def exDec : EntryDec :=
  { issuer := fun f => f
    serial := fun f => match f with
      | _ :: _ :: 2 :: 1 :: b :: _ => Int.ofNat b.toNat
      | _ => 0
    value := fun f => f
    minfo := fun i t n => i ++ t ++ n.getD []
    ext := fun n => match n with | none => [] | some k => [UInt8.ofNat k] }

example : writesOf exDec (readCRL C06.exOracle (enc C06.exDoc)).events =
    [(.minfo, [48, 2, 49, 0, 50, 52, 50, 53]),
     (.ent [48, 2, 49, 0] 5, [48, 5, 2, 1, 5, 23, 0]), (.ent [48, 2, 49, 0] 6, [48, 5, 2, 1, 6, 23, 0]),
     (.ext, [7])] := by
  rw [writes_of_enc C06.exOracle C06.exDoc _ _ _ _ C06.exDoc_wf exDec _ rfl]
  decide +kernel

example : (AKey.ent [48, 2, 49, 0] 6, [48, 5, 2, 1, 6, 23, 0]) ∈ writesOf exDec (readCRL C06.exOracle (enc C06.exDoc)).events :=
  listed_entry_is_written C06.exOracle C06.exDoc _ _ _ _ C06.exDoc_wf exDec _ rfl [2, 1, 6, 23, 0] (by decide)

-- `listed_entry_found_der` / `_pem` for the second entry, all four ways into a store, and what the lookup actually says
example : NeverAbsent C18.decAll (writesOf exDec (readCRL C06.exOracle (enc C06.exDoc)).events) [48, 2, 49, 0] 6 :=
  listed_entry_found_der C06.exOracle C06.exDoc _ _ _ _ C06.exDoc_wf exDec C18.decAll _ rfl [2, 1, 6, 23, 0] (by decide)

example : NeverAbsent C18.decAll
    (writesOf exDec (readCRLFile C06.exOracle (Pem.pemEncode true [88, 53, 48, 57, 32, 67, 82, 76] (enc C06.exDoc))).events)
    [48, 2, 49, 0] 6 :=
  listed_entry_found_pem C06.exOracle C06.exDoc _ _ _ _ C06.exDoc_wf exDec C18.decAll true _ (by decide) (by decide) _ rfl
    [2, 1, 6, 23, 0] (by decide)

example : (MapStore.new.fill (writesOf exDec (readCRL C06.exOracle (enc C06.exDoc)).events)).lookup C18.decAll [48, 2, 49, 0] 6 =
      .revoked [48, 5, 2, 1, 6, 23, 0] ∧
    (Ldb.fresh 3).2.lookup C18.decAll ((Ldb.fresh 3).2.fill (Ldb.fresh 3).1
      (writesOf exDec (readCRL C06.exOracle (enc C06.exDoc)).events)) [48, 2, 49, 0] 5 = .revoked [48, 5, 2, 1, 5, 23, 0] ∧
    -- a serial that is not listed is absent (the statement above is not trivially true of every serial)
    (MapStore.new.fill (writesOf exDec (readCRL C06.exOracle (enc C06.exDoc)).events)).lookup C18.decAll [48, 2, 49, 0] 7 = .absent := by
  rw [writes_of_enc C06.exOracle C06.exDoc _ _ _ _ C06.exDoc_wf exDec _ rfl]
  decide +kernel

example (i : List UInt8) (s : Int) (v : Val)
    (hw : (AKey.ent i s, v) ∈ writesOf exDec (readCRL C06.exOracle (enc C06.exDoc)).events) :
    i = [48, 2, 49, 0] ∧ (s = 5 ∨ s = 6) := by
  obtain ⟨hi, e, he, hs, _⟩ := nothing_else_is_written C06.exOracle C06.exDoc _ _ _ _ C06.exDoc_wf exDec _ rfl i s v hw
  refine ⟨hi, ?_⟩
  simp only [List.mem_cons, List.not_mem_nil, or_false] at he
  rcases he with rfl | rfl
  · exact Or.inl hs
  · exact Or.inr hs

/-- The same document under a leaf decoder that reports an unhandled critical extension. -/
def exOracleCritical : Oracle := { C06.exOracle with exts := fun _ => some [⟨[1, 2, 3], true, []⟩] }

/-- A rejected read whose callbacks were all made: the gate comes after `UpdateExtendedMetaInfo`. The four writes went
into the temporary store that `loadCRL` / `updateCrlEntry` discard. -/
theorem rejected_after_all_entries_forwarded :
    (match (readCRL exOracleCritical (enc C06.exDoc)).outcome with | .err .gate => true | _ => false) = true ∧
    (writesOf exDec (readCRL exOracleCritical (enc C06.exDoc)).events).length = 4 := by
  decide +kernel

-- a file the pre-scan rejects: no callback, no write
example : writesOf exDec (readCRL C06.exOracle [0x31, 0]).events = [] :=
  prescan_failure_no_writes _ _ _ (by decide)

-- the repository lemmas on a concrete state: a loaded list stays in force when the origin starts serving garbage
example : Repo.updateCrlEntry (Repo.serve {} 1 .garbage) 1 { loaded := true, store := ⟨some ⟨7, [10], 1, 5⟩, true, some 1⟩ } none =
    (Repo.serve {} 1 .garbage, .err) :=
  rejected_refresh_changes_nothing _ _ _ _ (by decide)

end Examples

end Crv.Props.C01.E2E
