import Crv.Proofs.LocksMain
import Crv.Proofs.Skeleton
import Crv.Generated.Locks
/-!
C13 — Concurrency safety. The generic theorems of `Crv.Proofs.LocksMain` instantiated on the lock
programs the translator regenerates from crl/crlrepository/crlrepository.go and
crl/crlrevocationchecker.go on every run (`Crv.Generated.sys`: thread programs `hs` (handshake =
CRLRevocationChecker.IsRevoked), `update` (tick / forced refresh = updateCRLsRecovering),
`cfgUpdate` (Repository.UpdateCRL), `cleanup`, `ticker` (the goroutine of initCRLUpdateTicker),
`provision`, `updateDirect`; calls inlined, `defer` resolved to every exit).

The side conditions are decidable checks over the extracted facts (kernel evaluation); the generic
theorems lift them to every number of threads, checker instances, repository entries and every
schedule.

Modelled: sequentially consistent interleavings of the extracted lock programs. Not modelled: the Go
memory model and scheduler, library-internal synchronisation (cache2go, goleveldb, net/http).
Writes to checker fields inside Provision / initCRLUpdateTicker are initialisation (ordered before
every other thread of that checker by Caddy's provisioning and by the `go` statement); the translator
checks that these functions are only called from Provision.
-/
namespace Crv.Props.C13
open Crv.Locks Crv.Generated

/-! ### the extracted facts satisfy the side conditions -/

theorem sys_wf : sys.wf = true := by decide +kernel

theorem sys_consistent : sys.consistent = true := by rw [Sys.consistent_eq]; decide +kernel

theorem sys_ordered : sys.ordered = true := by decide +kernel

/-- No program requests a lock class it already holds (the AddCRL → tryUpdateSignatureCertFromChain
re-lock repaired by c220e31 would make this, `sys_ordered` and `sys_consistent` fail). -/
theorem sys_noSelfAcquire : sys.noSelfAcquire = true := by decide +kernel

/-- `lifecycle` is not a lock of the code base: it stands for Caddy's module lifecycle (Provision and
Cleanup of one checker instance never overlap, Cleanup is not run twice concurrently); the translator
wraps the `provision` and `cleanup` programs in it. -/
theorem lock_names : lockNames = ["updateMutex", "workDirMutex", "repoLock", "entryLock", "lifecycle"] := rfl

/-- The order found in the code: updateMutex before repoLock before entryLock (Close and
getOrAddEntry hold repoLock and then take / create entry locks; nothing requests repoLock while
holding an entryLock: updateCrlEntry calls deleteEntrySync after updateEntry released the entry lock);
workDirMutex is only taken while nothing but the (virtual) lifecycle lock is held, and nothing is taken under it.

Lock classes by index: 0 updateMutex, 1 workDirMutex, 2 repoLock, 3 entryLock, 4 lifecycle (`lock_names`); field
classes are positions in `field_names`. `sys.lockRank` is the longest path in the translator's nesting graph
(tools/extract/locks.go) and is checked by `sys_ordered`, not trusted; `lockNesting` is the translator's own
list of (held, requested) pairs and is not recomputed from `sys.progs` here. -/
theorem lock_order : sys.rank 0 < sys.rank 2 ∧ sys.rank 2 < sys.rank 3 ∧
    (∀ e ∈ lockNesting, e.1 ≠ 1 ∧ (e.2 = 1 → e.1 = 4)) := by decide +kernel

/-! ### no deadlock -/

/-- Every reachable configuration (any number of threads of the seven kinds, any number of checker
instances and entries, any schedule) in which some call has not returned has a thread that is
enabled even if readers are held back by pending writers. -/
theorem no_deadlock (c : Config) (hr : Reachable sys c) (hu : Unfinished sys c) :
    ∃ i, strictEnabled sys c i = true :=
  progress sys_consistent sys_ordered hr hu

/-- `Crv.Locks.no_deadlock` on `sys`: the enabled thread of `no_deadlock` above can really take a step of the
semantics (needs `sys_wf`). -/
theorem some_call_proceeds (c : Config) (hr : Reachable sys c) (hu : Unfinished sys c) :
    ∃ c', Step sys c c' :=
  Crv.Locks.no_deadlock sys_wf sys_consistent sys_ordered hr hu

/-- What every thread holds is what the extracted annotation says, in every reachable configuration. -/
theorem holdings_as_extracted (c : Config) (hr : Reachable sys c) : Inv sys c :=
  reachable_inv sys_consistent hr

/-- A writer excludes everybody else, in every reachable configuration. -/
theorem writers_exclusive (c : Config) (hr : Reachable sys c) : Excl c := reachable_excl hr

/-! ### no data race -/

theorem field_names : fieldNames = ["repoMap", "entry.Loaded", "entry.CRLStore", "entry.storeContent",
    "entry.Chains", "entry.LastUpdateSignatureVerifyFailed", "entry.LastUpdateSignature", "entry.CRLLoader",
    "entry.loaderState", "checker.lastCrlUpdateFinishTime", "checker.crlUpdateStop", "checker.crlUpdateTicker",
    "workDirsInUse", "entry.Closed"] := rfl

/-- (field class, guard lock class): the repository map by repoLock; every field of an entry (incl.
`Closed`), the content of its store (S.Map / S.Db) and the state of its loader (lastSuccessfulLoader) by
that entry's entryLock; the per-instance refresh timestamp by updateMutex; workDirsInUse by workDirMutex;
`crlUpdateStop` is only touched by Provision and Cleanup (module lifecycle) since 19d3285 — the ticker
goroutine reads a local copy. The ticker handle and the loader reference are never written after
initialisation (any guard passes). -/
def guards : List (Nat × Nat) :=
  [(0, 2), (1, 3), (2, 3), (3, 3), (4, 3), (5, 3), (6, 3), (7, 3), (8, 3), (9, 0), (10, 4), (11, 0), (12, 1), (13, 3)]

theorem lockset_ok : sys.lockset guards = true := by
  simp only [Sys.lockset, Sys.locksetField_eq]; decide +kernel

theorem guards_cover : guards.map (·.1) = List.range fieldNames.length := by decide +kernel

/-- **No data race**: no reachable configuration (any number of threads of the seven kinds, any number of
checker instances and entries, any schedule) has two threads both about to perform conflicting accesses
(at least one write) to the same instance of any tracked field. -/
theorem race_free_all (c : Config) (hr : Reachable sys c) (f : Nat) (hf : f < fieldNames.length) :
    ¬ ConflictEnabled sys c f := by
  obtain ⟨gf, hgf, rfl⟩ := List.mem_map.mp (guards_cover ▸ List.mem_range.mpr hf : f ∈ guards.map (·.1))
  exact race_free sys_consistent (List.all_eq_true.mp lockset_ok gf hgf) hr

/-- A ticker goroutine selecting on `c.crlUpdateStop` while Cleanup sets the field to nil (the race that
19d3285 removed) would show here: the ticker goroutine does not access the field at all. -/
theorem ticker_does_not_touch_stop_channel :
    prog_ticker.nodes.all (fun n => n.instr != .rd 10 && n.instr != .wr 10) = true := by decide +kernel

/-! ### OCSP cache handle -/

/-- `c.cache` of the OCSP checker is assigned in Provision only (repaired by 92847ce: it used to be
re-assigned on every lookup, racing with concurrent lookups). -/
theorem ocsp_cache_assigned_once : ocspCacheAssignedIn = ["Provision"] := rfl

/-! ### non-vacuity -/

/-- thread 0 = a refresh (`update`), thread 1 = a handshake (`hs`), same checker, same entry -/
def demoStart : Config := [(1, 0, 0), (0, 0, 0)].map fun p => startThread sys p.1 p.2.1 p.2.2

/-- the refresh runs until it holds the entry write lock and is about to swap the store content, then the
handshake runs until it requests the same entry's lock -/
def demoSched : List (Nat × Nat × Nat) :=
  schedOf 0 0 ((prog_update.pathTo (fun _ => false)
    (fun n => n.instr == .wr 3 && n.held.contains (3, .w))).getD []) ++
  schedOf 1 0 ((prog_hs.pathTo (fun _ => false) (fun n => match n.instr with | .acq 3 _ => true | _ => false)).getD [])

/-- The hypotheses of `no_deadlock` are met by a configuration in which a handshake really is blocked by
a refresh holding the entry lock: the handshake is not enabled, the refresh is. -/
example : ∃ c, Reachable sys c ∧ Unfinished sys c ∧ strictEnabled sys c 1 = false ∧ strictEnabled sys c 0 = true := by
  have h : ∃ c, runSched sys demoStart demoSched = some c ∧ (c.any fun t => !t.finished sys) = true ∧
      strictEnabled sys c 1 = false ∧ strictEnabled sys c 0 = true ∧
      (c.map fun t => t.held.map cm) = [[(3, .w), (0, .w)], []] := by decide +kernel
  -- the last conjunct is not needed below: it records that the refresh holds the entry lock (3) and updateMutex (0)
  obtain ⟨c, hrun, hunf, h1, h0, _⟩ := h
  refine ⟨c, runSched_reachable _ _ _ (Reachable.init (init_start [(1, 0, 0), (0, 0, 0)] (by decide))) hrun, ?_, h1, h0⟩
  rw [List.any_eq_true] at hunf
  obtain ⟨t, ht, hf⟩ := hunf
  exact ⟨t, ht, by simpa using hf⟩

/-- `race_free_partial` is not vacuous: the same two threads do reach a configuration where both are about
to touch the same entry's store content — but only as reader after reader, never with the writer. -/
example : sys.hasWrite 3 = true ∧ sys.hasWrite 1 = true ∧ sys.hasWrite 0 = true := by decide +kernel

/-! Source fingerprints (`Crv/Proofs/Skeleton.lean`) re-exported into this namespace: a change to any of the fingerprinted Go
functions breaks an obligation of this property. -/
theorem repo_sources_as_transcribed : Crv.Generated.skeletonRepo = Crv.Skeleton.expectedRepo :=
  Crv.Skeleton.repo_sources_as_transcribed

theorem store_sources_as_transcribed : Crv.Generated.skeletonStore = Crv.Skeleton.expectedStore :=
  Crv.Skeleton.store_sources_as_transcribed

theorem ocsp_sources_as_transcribed : Crv.Generated.skeletonOcsp = Crv.Skeleton.expectedOcsp :=
  Crv.Skeleton.ocsp_sources_as_transcribed

end Crv.Props.C13
