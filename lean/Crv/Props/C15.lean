import Crv.Proofs.Sched
import Crv.Proofs.Skeleton
import Crv.Generated.Sched
import Crv.Props.C10Loader
/-!
C15 — Refresh liveness. Theorems over the scheduling model `Crv.Sched` instantiated with the facts the
translator regenerates from crl/crlrevocationchecker.go and crl/crlrepository/crlrepository.go on every
run: where the "last refresh finished" stamp lives (`schedLastFinishIsGlobal`), the skip rule
(`schedRecentlyFinished`, `schedDivisor`), the statement list of `updateCRLs` (`schedTickProg`), whether
`UpdateCRLs` goes on after a failing location (`schedLoopContinuesOnError`), and the statement order of
Provision for configured CRLs.

Time is logical (one unit, e.g. ns); assumptions about the runtime are explicit hypotheses:
* `Ticker`: for every tick instant φ + j·I up to the horizon, the call it triggers obtains the refresh
  mutex at most `W` later (the ticker fires, and the mutex — held only by refresh runs of this process —
  is obtained within `W`; `W` is at most the sum of the other pending runs' durations);
* `Serial`: a call of instance i decides after the previous run of instance i has finished (they all hold
  the same mutex);
* every run takes at most `D` (fetches terminate).
Nothing is assumed about the other instances' events.
-/
namespace Crv.Props.C15
open Crv.Sched Crv.Generated

def model : Model :=
  { global := schedLastFinishIsGlobal, prog := schedTickProg, recent := schedRecentlyFinished,
    contOnError := schedLoopContinuesOnError }

/-- The stamp is a field of the checker, not a package variable (repaired by 84f5929). If it becomes global
again this fails, and with it `bounded_refresh` and `noninterference` (see `global_stamp_starves`). -/
theorem stamp_per_instance : schedLastFinishIsGlobal = false := by decide

/-- `updateCRLs` as extracted: runs unless (not forced and recently finished); the finish time is stamped
exactly when it ran — also when locations failed (the stamp is deferred before the run) —; the mutex is
always released. -/
theorem tick_spec : TickSpec model := by
  intro f r; cases f <;> cases r <;> decide

/-- Not used below (`bounded_refresh` is about arbitrary event lists): these two say which events occur in the real
system. A forced call always runs; the ticker calls `updateCRLs(false)`, once when its goroutine starts and once per tick. -/
theorem forced_always_runs (r : Bool) : (runTick schedTickProg true r).ran = true := by
  cases r <;> decide

theorem ticks_are_not_forced : schedTickForced = false ∧ schedInitialRun = true := by decide

/-- A call of instance `i` decides only after `i`'s previous run has finished. -/
def Serial (I : Nat → Nat) (evs : List Ev) (i : Nat) : Prop :=
  ∀ pre e post, evs = pre ++ e :: post → e.inst = i → finalLast model I (fun _ => 0) pre i ≤ e.time

/-- Every tick instant of instance `i` up to the horizon leads to a call that decides at most `W` later. -/
def Ticker (evs : List Ev) (i φ Iv W horizon : Nat) : Prop :=
  ∀ j, φ + j * Iv ≤ horizon → ∃ e ∈ evs, e.inst = i ∧ φ + j * Iv ≤ e.time ∧ e.time ≤ φ + j * Iv + W

/-- **bounded_refresh.** For every instance `i` and every instant `t` (from the start φ of its ticker to
the horizon), a refresh run of `i` — which visits every location known when it starts — starts in
`(t, t + I + I/2 + D + W]` and is complete by `t + I + I/2 + 2·D + W`, whatever the other instances do
and whatever the refresh outcomes were. (`startBound I 2 D W = I + I/2 + D + W`.) -/
theorem bounded_refresh (I : Nat → Nat) (i φ D W horizon : Nat) (evs : List Ev)
    (hI : 0 < I i) (hD : ∀ e ∈ evs, e.dur ≤ D) (hser : Serial I evs i)
    (htick : Ticker evs i φ (I i) W horizon)
    (t : Nat) (hφ : φ ≤ t + I i / schedDivisor + D) (hh : t + I i / schedDivisor + D + I i ≤ horizon) :
    ∃ r ∈ exec model I (fun _ => 0) evs, r.inst = i ∧ t < r.start ∧
      r.start ≤ t + startBound (I i) schedDivisor D W ∧ r.finish ≤ t + doneBound (I i) schedDivisor D W := by
  obtain ⟨j, hj1, hj2⟩ := exists_tick φ (I i) (t + I i / schedDivisor + D) hI hφ
  obtain ⟨e, he, hei, hlo, hhi⟩ := htick j (Nat.le_trans hj2 hh)
  obtain ⟨pre, post, rfl⟩ := List.append_of_mem he
  obtain ⟨r, hr, hri, h1, h2, h3⟩ :=
    tick_has_recent_run tick_spec stamp_per_instance schedDivisor (fun _ _ _ => rfl) I i D pre post e (fun _ => 0) rfl hei
      hD (hser pre e post rfl hei) t (Nat.lt_of_lt_of_le hj1 hlo)
  refine ⟨r, hr, hri, h1, ?_, ?_⟩
  · unfold startBound; omega
  · unfold doneBound startBound; omega

/-- **Non-interference.** The runs of instance `i` are a function of `i`'s own events. -/
theorem noninterference (I : Nat → Nat) (i : Nat) (evs : List Ev) :
    (exec model I (fun _ => 0) evs).filter (·.inst == i) = exec model I (fun _ => 0) (evs.filter (·.inst == i)) :=
  Crv.Sched.noninterference tick_spec stamp_per_instance I i evs _ _ rfl

/-- `n` rounds: instance 0 ticks at `10n + 1`, instance 1 one unit later, runs of length 0. -/
def starveEvs : Nat → List Ev
  | 0 => []
  | n + 1 => starveEvs n ++ [⟨0, false, 10 * n + 1, 0⟩, ⟨1, false, 10 * n + 2, 0⟩]

/-- What a process-global stamp does (the model with `global := true`): instance 1, whose ticks come one
unit after instance 0's, never runs in 40 consecutive intervals although its ticker fires every time; under the
per-instance stamp the same events give instance 1 all its 40 runs. -/
theorem global_stamp_starves :
    ((exec { model with global := true } (fun _ => 10) (fun _ => 0) (starveEvs 40)).all (·.inst != 1)) = true ∧
    ((exec model (fun _ => 10) (fun _ => 0) (starveEvs 40)).filter (·.inst == 1)).length = 40 := by
  decide +kernel

/-- **after_failures.** Failures do not alter the schedule: the stamp and the skip decision do not depend
on refresh outcomes (`tick_spec`), every run attempts every known location even when earlier ones failed,
and a location whose refresh failed `k` times and then succeeds is in force with the version published at
that run; until then the previous list stays. -/
theorem after_failures (ok : Nat → Bool) (locs : List Nat) (pub : Nat → Nat) (okl : Nat → Bool) (v0 k : Nat)
    (hfail : ∀ j, j < k → okl j = false) (hok : okl k = true) :
    attempted model.contOnError ok locs = locs ∧
    inForce pub okl v0 k = v0 ∧ inForce pub okl v0 (k + 1) = pub k :=
  ⟨attempted_all ok locs, inForce_all_fail pub okl v0 k hfail, inForce_succ_ok pub okl v0 k hok⟩

/-! ### Provision -/

def facts : RepoFacts :=
  { addStoresLocations := schedAddStoresLocations, addLoadsActively := schedAddLoadsActively,
    updateEntrySetsLoaded := schedUpdateEntrySetsLoaded, updateReturnsError := schedUpdateReturnsError }

theorem provision_ok {fetchOk : Nat → Bool} {cfg : ProvCfg} {s' : PState}
    (h : provision facts sched_addCrlUrlsFromConfig sched_addCrlFilesFromConfig fetchOk cfg schedProvision {} = some s') :
    (∀ l ∈ cfg.urls ++ cfg.files, s'.inForce l = true ∧ fetchOk l = true) ∧ s'.tickerStarted = true := by
  simp only [schedProvision, sched_addCrlUrlsFromConfig, sched_addCrlFilesFromConfig, provision] at h
  split at h
  · next s1 hu =>
    split at h
    · next s2 hf =>
      cases h
      obtain ⟨a1, -⟩ := locs_in_force (F := facts) rfl rfl _ _ _ hu
      obtain ⟨b1, b2⟩ := locs_in_force (F := facts) rfl rfl _ _ _ hf
      refine ⟨fun l hl => ?_, rfl⟩
      rcases List.mem_append.mp hl with hl | hl
      · exact ⟨b2 l (a1 l hl).1, (a1 l hl).2⟩
      · exact b1 l hl
    · cases h
  · cases h

/-- **provision_in_force.** With the statement order extracted from Provision / addCrlUrlsFromConfig /
addCrlFilesFromConfig (AddCRL, return its error, UpdateCRL, return its error — for every configured
location, before the ticker is started), Provision returns ok only in a state where every configured
crl_url and crl_file is loaded, in both fetch modes (in fetch_background mode AddCRL does not load; the
entry is marked loaded by updateEntry, d2bc860). -/
theorem provision_in_force (fetchOk : Nat → Bool) (cfg : ProvCfg) (s' : PState)
    (h : provision facts sched_addCrlUrlsFromConfig sched_addCrlFilesFromConfig fetchOk cfg schedProvision {} = some s') :
    (∀ l ∈ cfg.urls ++ cfg.files, s'.inForce l = true) ∧ s'.tickerStarted = true :=
  ⟨fun l hl => ((provision_ok h).1 l hl).1, (provision_ok h).2⟩

/-- … and a failing configured location makes Provision fail (it is not silently skipped). -/
theorem provision_fails_if_unfetchable (cfg : ProvCfg) (l : Nat) (ls : List Nat) (hu : cfg.urls = l :: ls) (fetchOk : Nat → Bool)
    (hf : fetchOk l = false) :
    provision facts sched_addCrlUrlsFromConfig sched_addCrlFilesFromConfig fetchOk cfg schedProvision {} = none := by
  cases h : provision facts sched_addCrlUrlsFromConfig sched_addCrlFilesFromConfig fetchOk cfg schedProvision {} with
  | none => rfl
  | some s' =>
    have := ((provision_ok h).1 l (List.mem_append_left _ (hu ▸ List.mem_cons_self ..))).2
    rw [hf] at this; cases this

/-! ### non-vacuity -/

/-- two instances (intervals 10 and 14, instance 1 starting 3 units later), runs of 1 unit, 12 ticks each -/
def demoSorted : List Ev :=
  (List.range 170).flatMap fun t =>
    (if t % 10 = 1 ∧ t < 120 then [(⟨0, false, t, 1⟩ : Ev)] else []) ++
    (if 4 ≤ t ∧ (t - 4) % 14 = 0 then [(⟨1, false, t, 1⟩ : Ev)] else [])

/-- the hypotheses of `bounded_refresh` hold on a concrete two-instance schedule, and its conclusion is
witnessed by an actual run -/
example : (exec model (fun i => if i = 0 then 10 else 14) (fun _ => 0) demoSorted).length = 24 ∧
    (∃ r ∈ exec model (fun i => if i = 0 then 10 else 14) (fun _ => 0) demoSorted, r.inst = 1 ∧ 50 < r.start ∧
      r.start ≤ 50 + startBound 14 schedDivisor 1 0) := by decide +kernel

/-- a skip really happens in the model (a forced refresh just before a tick suppresses the tick) -/
example : exec model (fun _ => 10) (fun _ => 0) [⟨0, true, 8, 1⟩, ⟨0, false, 11, 1⟩, ⟨0, false, 21, 1⟩] =
    [⟨0, 8, 9⟩, ⟨0, 21, 22⟩] := by decide +kernel

/-- Provision succeeds and everything is in force in fetch_background mode with two urls and a file -/
example : ∃ s', provision facts sched_addCrlUrlsFromConfig sched_addCrlFilesFromConfig (fun _ => true)
    { urls := [1, 2], files := [3], active := false } schedProvision {} = some s' ∧
    s'.inForce 1 = true ∧ s'.inForce 2 = true ∧ s'.inForce 3 = true := ⟨_, rfl, by decide, by decide, by decide⟩

/-! Source fingerprints (`Crv/Proofs/Skeleton.lean`) re-exported into this namespace: a change to any of the fingerprinted Go
functions breaks an obligation of this property. -/
theorem repo_sources_as_transcribed : Crv.Generated.skeletonRepo = Crv.Skeleton.expectedRepo :=
  Crv.Skeleton.repo_sources_as_transcribed

theorem loader_sources_as_transcribed : Crv.Generated.skeletonLoader = Crv.Skeleton.expectedLoader :=
  Crv.Skeleton.loader_sources_as_transcribed

/-! ### "again after failed attempts" at the loader layer (re-exports of `Crv.Props.C10.Loader`) -/
section LoaderLayer
open Crv.Loader

/-- After **any** history of `LoadCRL` calls on one multi-location loader object, a call succeeds exactly when some distribution
point answers in that call: no location is given up on because of earlier failures. -/
theorem loader_no_blacklisting (n : Nat) (hist : List (Nat → Bool)) (out : Nat → Bool) :
    (runCalls (fresh n) hist).wf = true ∧ (runCalls (fresh n) hist).n = n ∧
    ((∃ j, (load (runCalls (fresh n) hist) out).2.1 = some j) ↔ ∃ j, j < n ∧ out j = true) ∧
    ((∃ j, j < n ∧ out j = true) →
      ∃ j, (load (runCalls (fresh n) hist) out).2.1 = some j ∧ j < n ∧ out j = true) :=
  Crv.Props.C10.Loader.no_blacklisting n hist out

/-- One fetch through `utils.Retry` with the package's retry count ends after at most five attempts (it cannot hold the refresh
mutex for an unbounded number of attempts) and succeeds iff one of them does. -/
theorem loader_retry_bounded (out : Nat → Bool) :
    1 ≤ (loaderRetry out).2 ∧ (loaderRetry out).2 ≤ 5 ∧
    ((loaderRetry out).1 = true ↔ ∃ k, k < 5 ∧ out k = true) :=
  Crv.Props.C10.Loader.loader_retry_five out

/-- A failing load has asked every loader, and every one of them failed in this call. -/
theorem loader_failure_tried_everyone (m : Multi) (out : Nat → Bool) (h : (load m out).2.1 = none) :
    (∀ j, j < m.n → j ∈ (load m out).2.2) ∧ (∀ j ∈ (load m out).2.2, out j = false) :=
  ⟨(Crv.Props.C10.Loader.load_failure_tries_everyone m out h).1, (Crv.Props.C10.Loader.load_failure_tries_everyone m out h).2.1⟩

end LoaderLayer

end Crv.Props.C15
