import Crv.Paths
import Crv.Proofs.Skeleton
import Crv.Generated.Paths
import Crv.Proofs.Paths
import Crv.Proofs.PathsOps
import Crv.Proofs.PathsLife
import Crv.Proofs.PathsWalk
/-!
C20 — Work-directory discipline and clean lifecycle.

Part 1 (names): stated for an arbitrary function `sha` with 32-byte results and an arbitrary normaliser `norm`
(`url.Parse(..).String()`); collision freedom of `sha` is an explicit hypothesis where distinctness is claimed.
Part 2 (lifecycle): stated about the operation lists regenerated from `Provision`, `Cleanup`, `loadCRL`,
`updateCrlEntry`, `LevelDbStore.Update` (`Crv.Generated.pathFacts`), for every history of events.

Partial by nature: database handles, the ticker and the updater goroutine are runtime objects; the model tracks which
of them the code creates and releases, the harness counts the real ones.
-/
namespace Crv.Props.C20
open Crv.Paths Crv.Generated

theorem hex_alphabet (bs : List UInt8) : ∀ c ∈ hex bs, isHexDigit c = true := hex_all bs
theorem hex_len (bs : List UInt8) : (hex bs).length = 2 * bs.length := hex_length bs
theorem hex_injective (a b : List UInt8) (h : hex a = hex b) : a = b := hex_inj a b h

section names
variable (sha : List UInt8 → List UInt8) (hlen : ∀ x, (sha x).length = 32) (norm : Name → Option Name)
include hlen

/-- A store directory name is 64 lower-case hex characters: no separator, no dot, not "", "." or "..". -/
theorem store_name (x : List UInt8) :
    (storeName sha x).length = 64 ∧ (∀ c ∈ storeName sha x, isHexDigit c = true) ∧ normalComponent (storeName sha x) := by
  refine ⟨by simp [storeName, hex_length, hlen], hex_all _, hex_normal _ ?_⟩
  intro e; have := hlen x; rw [e] at this; cases this

/-- Whatever the location string: the store path is `work_dir` (cleaned) plus exactly one element — a direct child. -/
theorem store_path_inside (wd : Name) (hwd : wd ≠ []) (x : List UInt8) :
    join wd (storeName sha x) = { rooted := (clean wd).rooted, comps := (clean wd).comps ++ [storeName sha x] } :=
  join_child wd _ hwd (store_name sha hlen x).2.2

omit hlen in
/-- A live store is never swept: its name cannot match the temp pattern. -/
theorem sweep_spares_live (x : List UInt8) : matchesTemp pathFacts (storeName sha x) = false :=
  matchesPattern_hex_false _ _ _ ⟨114, by decide, by decide⟩ (hex_all _)

omit hlen in
/-- The same location string always maps to the same store (the identifier is a function of the normalised string only). -/
theorem same_location_same_store (u u' : Name) (h : norm u = norm u') : urlId sha norm u = urlId sha norm u' := by
  simp [urlId, h]

omit hlen in
/-- Two URL locations share a store only if the normaliser maps them to the same string (up to SHA-256 collisions). -/
theorem distinct_urls_distinct_stores (hcf : ∀ a b, sha a = sha b → a = b) (u u' : Name) (i : Name)
    (h : urlId sha norm u = some i) (h' : urlId sha norm u' = some i) : norm u = norm u' := by
  obtain ⟨p, hp, rfl⟩ := (urlId_eq_some sha norm).mp h
  obtain ⟨p', hp', e⟩ := (urlId_eq_some sha norm).mp h'
  rw [hp, hp', storeName_inj sha hcf e]

omit hlen in
theorem distinct_files_distinct_stores (hcf : ∀ a b, sha a = sha b → a = b) (f f' : Name)
    (h : fileId sha pathFacts f = fileId sha pathFacts f') : f = f' :=
  List.append_cancel_left (storeName_inj sha hcf h)

/-- Two distribution-point lists share a store only if their kept, normalised URL lists are equal
(block-concatenation injectivity; up to SHA-256 collisions). -/
theorem distinct_cdp_lists_distinct_stores (hcf : ∀ a b, sha a = sha b → a = b) (cdps cdps' : List Name) (i : Name)
    (h : cdpId sha norm pathFacts cdps = some i) (h' : cdpId sha norm pathFacts cdps' = some i) :
    mapOpt norm (cdpKept pathFacts cdps) = mapOpt norm (cdpKept pathFacts cdps') := by
  obtain ⟨ns, hn, rfl⟩ := cdpId_eq_some sha norm h
  obtain ⟨ns', hn', e⟩ := cdpId_eq_some sha norm h'
  -- equal concatenations of 64-byte identifiers: equal identifier lists, hence equal URL lists
  have hw : ∀ l : List Name, ∀ x ∈ l.map (storeName sha), x.length = 64 := by
    intro l x hx
    obtain ⟨y, _, rfl⟩ := List.mem_map.mp hx
    exact (store_name sha hlen y).1
  have hids := flatten_blocks_inj 64 (by omega) _ _ (hw ns) (hw ns') (storeName_inj sha hcf e)
  rw [hn, hn', (List.map_inj_right fun a b hab => storeName_inj sha hcf hab).mp hids]

omit hlen in
/-- **Kinds are separated (file / URL).** A file location and a URL location never share a store, whatever the file
is called: the file pre-image starts with a control byte, and the normaliser's output contains no byte below 0x20
(hypothesis `hnorm`; the harness checks it on every URL string it uses). Up to SHA-256 collisions. -/
theorem file_and_url_never_share_a_store (hcf : ∀ a b, sha a = sha b → a = b)
    (hnorm : ∀ u p, norm u = some p → ∀ b ∈ p, (32 : UInt8) ≤ b) (u f : Name) (i : Name)
    (h : urlId sha norm u = some i) : fileId sha pathFacts f ≠ i := by
  rintro rfl
  obtain ⟨p, hu, e⟩ := (urlId_eq_some sha norm).mp h
  have h0 : (0 : UInt8) ∈ p := storeName_inj sha hcf e ▸ List.mem_append_left _ (by decide)
  exact absurd (hnorm u p hu 0 h0) (by decide)

/-- **Kinds are separated (file / distribution-point list).** The pre-image of a CDP identifier is a concatenation of
hex identifiers, the file pre-image starts with a byte that is no hex digit. (`hlen` is in the signature but not used.) -/
theorem file_and_cdp_never_share_a_store (hcf : ∀ a b, sha a = sha b → a = b) (cdps : List Name) (f : Name) (i : Name)
    (h : cdpId sha norm pathFacts cdps = some i) : fileId sha pathFacts f ≠ i := by
  rintro rfl
  obtain ⟨ns, _, e⟩ := cdpId_eq_some sha norm h
  have h0 : (0 : UInt8) ∈ (ns.map (storeName sha)).flatten := storeName_inj sha hcf e ▸ List.mem_append_left _ (by decide)
  obtain ⟨l, hl, hm⟩ := List.mem_flatten.mp h0
  obtain ⟨y, _, rfl⟩ := List.mem_map.mp hl
  exact absurd (hex_all _ 0 hm) (by decide)

end names

/-- Temp names (download file, staged store, moved-aside store) always match the sweep pattern … -/
theorem temp_names_swept (u : Name) (hu : (10 : UInt8) ∉ u) :
    matchesTemp pathFacts (createTempName pathFacts u) = true ∧ matchesTemp pathFacts (randomName pathFacts u) = true := by
  constructor <;> exact (matchesPattern_iff _ _ _).mpr ⟨u, rfl, hu⟩

/-- … and lie directly inside work_dir. -/
theorem temp_inside (wd u : Name) (hwd : wd ≠ []) (hu : (47 : UInt8) ∉ u) :
    join wd (createTempName pathFacts u) = { rooted := (clean wd).rooted, comps := (clean wd).comps ++ [createTempName pathFacts u] } ∧
    join wd (randomName pathFacts u) = { rooted := (clean wd).rooted, comps := (clean wd).comps ++ [randomName pathFacts u] } := by
  have hn : normalComponent ([99, 114, 108, 95] ++ u ++ [95, 116, 109, 112]) :=
    normalComponent_affix _ u _ (by decide) (by decide) hu (by decide)
  exact ⟨join_child wd _ hwd hn, join_child wd _ hwd hn⟩

/-- **No residue, one operation.** A complete first load or refresh — origin down, parse error after any number of
records, rejected signature, or success; disk or memory storage — leaves every name of work_dir other than the
location's own store exactly as it was (no temporary artefact stays, no other store and no foreign file is touched),
and the location's store is either untouched or replaced by the complete image of the accepted document.
`wl` (implicit): whether the staged image carries the locations record — `sc.hasLoc` for a first load, `true` for a
refresh; `hs` ties it to `steps`. -/
theorem no_residue_op (sc : Scn) (fs : Fs) (h : NamesOk sc (Fs.get fs)) (steps : List Step)
    (hs : (steps = loadSteps pathFacts sc ∧ wl = sc.hasLoc) ∨ (steps = refreshSteps pathFacts sc ∧ wl = true)) :
    (∀ n, n ≠ sc.id → Fs.get (run steps fs) n = Fs.get fs n) ∧
    (Fs.get (run steps fs) sc.id = Fs.get fs sc.id ∨
      ∃ d, sc.disk = true ∧ accepted sc = some d ∧
        Fs.get (run steps fs) sc.id = some (.dir (stagedImage sc d wl (sc.sigChecked && d.sigOk)))) := by
  have S : Shape sc wl steps := by
    rcases hs with ⟨rfl, rfl⟩ | ⟨rfl, rfl⟩
    · exact load_shape sc
    · exact refresh_shape sc
  rw [get_run]
  rcases S.full _ h with e | ⟨d, hd, ha, e⟩ <;> rw [e]
  · exact ⟨fun _ _ => rfl, Or.inl rfl⟩
  · exact ⟨fun n hn => upd_ne _ _ _ _ hn, Or.inr ⟨d, hd, ha, upd_same ..⟩⟩

/-- The sum of open database handles after a complete operation: nothing stays open that was not open before,
except the location's own store. -/
theorem no_handle_residue_op (sc : Scn) (hs : List Name) (n : Name) :
    (n ∈ runHandles (loadSteps pathFacts sc) hs → n ∈ hs ∨ n = sc.id) ∧
    (n ∈ runHandles (refreshSteps pathFacts sc) hs → n ∈ hs ∨ n = sc.id) :=
  ⟨(load_shape sc).handles hs n, (refresh_shape sc).handles hs n⟩

/-- **No residue, every history.** After any sequence of provision / first use / refresh (each ok or failed at any
step) / cleanup / foreign-file events: every temp-pattern name in work_dir is one that somebody else put there, and
every directory that does not match the temp pattern (in particular every store) is still a directory. -/
theorem no_residue (sys : Sys) (evs : List Ev) (hok : ∀ ev ∈ evs, EvOk ev) (h0 : TempOk sys) :
    TempOk (runEvs pathFacts sys evs) ∧
    ∀ n img, matchesTemp pathFacts n = false → Fs.get sys.fs n = some (.dir img) →
      ∃ img', Fs.get (runEvs pathFacts sys evs).fs n = some (.dir img') :=
  ⟨(runEvs_hist sys evs hok).temp h0, (runEvs_hist sys evs hok).dirs⟩

/-- **Startup cleaning.** When `Provision` gets past the registration, then — whether it goes on to succeed or fails
while loading a configured CRL — no temp-pattern name is left in work_dir, foreign look-alikes included. -/
theorem startup_sweep (v : Bool) (urls files : List Location) (sys : Sys) (hfree : sys.wd ∉ sys.registered)
    (hu : ∀ l ∈ urls, matchesTemp pathFacts l.id = false) (hf : ∀ l ∈ files, matchesTemp pathFacts l.id = false) :
    ∀ n, matchesTemp pathFacts n = true → Fs.get (provision pathFacts v urls files sys).1.fs n = none := by
  obtain ⟨mid, r, e | e⟩ := (provision_spec v urls files sys hu hf).2 hfree
  · rw [e]; exact (provision_fs sys mid r).1
  · rw [e, cleanup_fs]; exact (provision_fs sys mid r).1

/-! ### The clean-up is a `filepath.Walk`

`sweep` — the filter every statement of Part 2 is about — is an idealisation of `DeleteTempFilesIfExist`. That the walk of the
source is this filter, and which callback shapes are not, is explained in `Crv.Props.C12` under the same heading; the
theorems are stated here again because this property rests on them as well. -/

theorem walk_guards_canonical : walkDeleteGuard = "nonroot" ∧ walkSkipGuard = "dir-nonroot" :=
  Crv.Paths.walk_guards_canonical

theorem walk_visits_every_child (F : Facts) (l : List (Name × Node)) :
    walkDeleted "nonroot" "dir-nonroot" F l = (l.filter (fun e => matchesTemp F e.1)).map (·.1) :=
  Crv.Paths.walk_visits_every_child F l

theorem startup_walk_is_sweep (F : Facts) (fs : Fs) : startupSweep F fs = sweep F fs :=
  Crv.Paths.startup_walk_is_sweep F fs

/-- Hence the `sweep` statement of `Provision` in the lifecycle machine is the real walk. -/
theorem provision_sweep_is_walk (v : Bool) (urls files : List Location) (sys : Sys) :
    provisionOp pathFacts v urls files (sys, false) ProvisionOp.sweep = ({ sys with fs := startupSweep pathFacts sys.fs }, false) := by
  rw [Crv.Paths.startup_walk_is_sweep]; rfl

theorem skip_on_files_leaves_residue :
    walkSweep "nonroot" "nonroot" pathFacts residueFs = residueFs ∧
    walkSweep "nonroot" "nonroot" pathFacts residueFs ≠ sweep pathFacts residueFs :=
  Crv.Paths.skip_on_files_leaves_residue

theorem descent_into_removed_dir_leaves_residue :
    walkSweep "nonroot" "never" pathFacts abortFs = [([99, 114, 108, 95, 98, 95, 116, 109, 112], .file)] ∧
    sweep pathFacts abortFs = [] :=
  Crv.Paths.descent_into_removed_dir_leaves_residue

/-- **Cleanup releases.** From a provisioned checker `Cleanup` removes its work_dir from the registry (other
instances' registrations stay), leaves no database handle of its repository open, stops the ticker and ends the
updater goroutine (the stop channel is closed); work_dir itself is not touched. -/
theorem cleanup_releases (sys : Sys) (regs : List Name) (hwd : sys.wd ∉ regs) (L : Live sys regs) :
    (cleanup pathFacts sys).registered = regs ∧ (cleanup pathFacts sys).handles = [] ∧
    (cleanup pathFacts sys).inst.ticker = false ∧ (cleanup pathFacts sys).inst.stop = false ∧
    (cleanup pathFacts sys).fs = sys.fs := by
  have I := cleanup_of_held sys regs hwd L.toHeld
  exact ⟨I.registered, I.handles, I.ticker, I.stop, cleanup_fs sys⟩

/-- The same after a `Provision` that failed half way (Caddy calls `Cleanup` on the module): nothing stays held. -/
theorem failed_provision_releases (v : Bool) (urls files : List Location) (sys : Sys) (regs : List Name)
    (hwd : sys.wd ∉ regs) (I : Idle sys regs)
    (hu : ∀ l ∈ urls, matchesTemp pathFacts l.id = false) (hf : ∀ l ∈ files, matchesTemp pathFacts l.id = false)
    (hfail : (provision pathFacts v urls files sys).2 = false) : Idle (provision pathFacts v urls files sys).1 regs := by
  have hfree : sys.wd ∉ sys.registered := by rw [I.registered]; exact hwd
  obtain ⟨mid, r, e | e⟩ := (provision_spec v urls files sys hu hf).2 hfree
  · rw [e] at hfail; cases hfail
  · rw [e]
    exact cleanup_of_held mid regs (by rw [r.wd]; exact hwd) (held_of_repoStep sys mid regs I.registered I.handles r)

/-- **Exclusive registration.** While a work_dir string is registered, `Provision` of another checker with the same
string fails, and neither the failed attempt nor the `Cleanup` that follows it changes the registry (the holder keeps
its registration), the open handles or work_dir. -/
theorem register_exclusive (v : Bool) (urls files : List Location) (sys : Sys) (hbusy : sys.wd ∈ sys.registered)
    (hu : ∀ l ∈ urls, matchesTemp pathFacts l.id = false) (hf : ∀ l ∈ files, matchesTemp pathFacts l.id = false) :
    (provision pathFacts v urls files sys).2 = false ∧
    (provision pathFacts v urls files sys).1.registered = sys.registered ∧
    (provision pathFacts v urls files sys).1.handles = sys.handles ∧
    (provision pathFacts v urls files sys).1.fs = sys.fs := by
  rw [(provision_spec v urls files sys hu hf).1 hbusy]
  exact ⟨rfl, rfl, rfl, rfl⟩

/-- State of the checker between events: idle or live, for every history. -/
theorem lifecycle_invariant (sys : Sys) (regs : List Name) (evs : List Ev) (hok : ∀ ev ∈ evs, EvOk ev)
    (hwd : sys.wd ∉ regs) (h : Idle sys regs ∨ Live sys regs) :
    Idle (runEvs pathFacts sys evs) regs ∨ Live (runEvs pathFacts sys evs) regs :=
  (runEvs_hist sys evs hok).state regs hwd h

/-- One provision … cleanup cycle: any configuration, any outcome of `Provision`, any events in between. -/
def cycle (c : Bool × List Location × List Location × List Ev) : List Ev :=
  Ev.provision c.1 c.2.1 c.2.2.1 :: c.2.2.2 ++ [Ev.cleanup]

/-- **Cycles.** From a state in which this checker holds nothing, any number `k` of provision/…/cleanup cycles on the
same work_dir ends in a state in which it holds nothing: registry as at the start, no handle, no ticker, no goroutine —
so every later `Provision` gets past the registration again. -/
theorem cycles (sys : Sys) (regs : List Name) (cs : List (Bool × List Location × List Location × List Ev))
    (hok : ∀ c ∈ cs, ∀ ev ∈ cycle c, EvOk ev) (hwd : sys.wd ∉ regs) (I : Idle sys regs) :
    Idle (runEvs pathFacts sys (cs.flatMap cycle)) regs := by
  induction cs generalizing sys with
  | nil => exact I
  | cons c cs ih =>
    -- one cycle: idle or live after `provision :: evs` (`Hist.state`), idle after the `cleanup` that ends it
    have H := runEvs_hist sys (Ev.provision c.1 c.2.1 c.2.2.1 :: c.2.2.2)
      fun ev he => hok c (List.mem_cons_self ..) ev (List.mem_append_left [Ev.cleanup] he)
    have hwd' := H.wd.symm ▸ hwd
    have := ih (stepEv pathFacts _ .cleanup) (fun c' hc' => hok c' (List.mem_cons_of_mem _ hc')) ((hist_cleanup _).wd.symm ▸ hwd')
      (cleanup_idle _ regs hwd' (H.state regs hwd (Or.inl I)))
    simpa [cycle, runEvs, List.foldl_append] using this

/-! ### Non-vacuity: a concrete history, evaluated -/

section examples
def exDoc (t : Nat) (ok : Bool) : Doc := { tag := t, serials := [1, 2, 3], sigOk := ok }
def exA : Name := hex [0xaa, 0x01]
def exB : Name := hex [0xbb, 0x02]
def foreignTemp : Name := [99, 114, 108, 95, 120, 95, 116, 109, 112]   -- "crl_x_tmp"
def foreignOther : Name := [99, 114, 108, 95, 116, 109, 112]             -- "crl_tmp"
def exSys : Sys := { disk := true, wd := [47, 119], fs := [(foreignTemp, .file), (foreignOther, .file)] }
def exHistory : List Ev :=
  [ .provision true [{ id := exA, first := .doc (exDoc 1 true), update := .doc (exDoc 2 true) }] [],
    .handshake true exB (.doc (exDoc 3 false)),        -- first load rejected (bad signature)
    .handshake true exB .down,                          -- origin down
    .handshake true exB (.broken (exDoc 4 true) 2),     -- parse error after two records
    .handshake true exB (.doc (exDoc 5 true)),          -- accepted
    .refresh true exA (.doc (exDoc 6 false)),           -- refresh rejected
    .foreign foreignTemp .file,
    .refresh true exB (.doc (exDoc 7 true)) ]

example : ∀ ev ∈ exHistory, EvOk ev := by decide +kernel

set_option maxRecDepth 20000 in
/-- listing after the history: the two stores, the surviving look-alike, and the temp-named file dropped after startup;
both handles open, work_dir registered -/
example : let s := runEvs pathFacts exSys exHistory
    (s.fs.names, s.handles, s.registered, s.inst.stop) = ([exB, foreignTemp, exA, foreignOther], [exB, exA], [[47, 119]], true) := by
  decide +kernel

set_option maxRecDepth 20000 in
/-- … and after Cleanup nothing is held -/
example : let s := runEvs pathFacts exSys (exHistory ++ [.cleanup])
    (s.handles, s.registered, s.inst.ticker, s.inst.stop) = ([], [], false, false) := by decide +kernel

example : Idle exSys [] := ⟨rfl, rfl, rfl, rfl⟩
end examples

/-! Source fingerprints (`Crv/Proofs/Skeleton.lean`) re-exported into this namespace: a change to any of the fingerprinted Go
functions breaks an obligation of this property. -/
theorem loader_sources_as_transcribed : Crv.Generated.skeletonLoader = Crv.Skeleton.expectedLoader :=
  Crv.Skeleton.loader_sources_as_transcribed

theorem repo_sources_as_transcribed : Crv.Generated.skeletonRepo = Crv.Skeleton.expectedRepo :=
  Crv.Skeleton.repo_sources_as_transcribed

theorem store_sources_as_transcribed : Crv.Generated.skeletonStore = Crv.Skeleton.expectedStore :=
  Crv.Skeleton.store_sources_as_transcribed

end Crv.Props.C20
