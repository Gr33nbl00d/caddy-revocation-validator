import Crv.Proofs.Repo
import Crv.Proofs.Skeleton
import Crv.Props.C18
/-!
C11 — Precision: only entries of CRLs in force, under the same issuer, can revoke.
Repository level (this file) on abstract documents; the byte level (key = issuer string ++ "_" ++ decimal serial,
injective; FNV-64 collisions an explicit hypothesis) is `Crv.Props.C18` / `Crv/Proofs/StoreKey`.
-/
namespace Crv.Props.C11
open Crv Crv.Repo Crv.Generated

/-- A `revoked` answer always comes from a loaded, open entry whose document — accepted under the policy configured at its
intake (histories may restart with another signature mode) — lists exactly this serial under exactly this issuer name.
Every reachable state, every enumeration order. -/
theorem revoked_implies_listed (cfg : Cfg) (ops : List Op) (c : Cert) (order : List (Loc × Entry))
    (hsub : ∀ p ∈ order, p ∈ (run cfg ops).entries)
    (h : isRevoked (run cfg ops) order c = .revoked) :
    ∃ loc d, inForce (run cfg ops) loc d ∧ Accepted (run cfg ops) loc d ∧ d.issuer = c.issuer ∧ c.serial ∈ d.serials := by
  have hw := walk_spec c order
  rcases isRevoked_cases (run cfg ops) order c with h' | ⟨h', -⟩ <;> rw [h'] at h
  · cases h
  rw [h] at hw
  obtain ⟨⟨loc, e⟩, hp, hl, hcl, hlist⟩ := hw
  have hmem := hsub _ hp
  unfold listed at hlist
  cases hdoc : e.store.doc with
  | none => simp [hdoc] at hlist
  | some d =>
    simp only [hdoc, Bool.and_eq_true, beq_iff_eq] at hlist
    exact ⟨loc, d, ⟨e, hmem, hl, hcl, hdoc⟩, ((inv_run cfg ops).1 (loc, e) hmem).store.accepted d hdoc, hlist.1,
      List.contains_iff_mem.mp hlist.2⟩

/-- Another issuer sharing the serial is not affected; near-miss serials are not affected. -/
theorem other_issuer_not_listed (st : Store) (d : DocA) (c : Cert) (hd : st.doc = some d) (hi : d.issuer ≠ c.issuer) :
    listed st c = false := by
  simp [listed, hd, hi]

theorem other_serial_not_listed (st : Store) (d : DocA) (c : Cert) (hd : st.doc = some d) (hs : c.serial ∉ d.serials) :
    listed st c = false := by
  simp [listed, hd, hs]

/-- Refresh replaces, it does not merge: after a successful refresh the store is an image of the new document only. -/
theorem refresh_replaces (s : State) (loc : Loc) (e : Entry) (nc : Option (List Signer))
    (hok : (updateCrlEntry s loc e nc).2 = .ok) :
    ∃ d, servedAt s loc = .doc d ∧
      ∀ e', lookup (updateCrlEntry s loc e nc).1.entries loc = some e' → e'.store.doc = some d := by
  revert hok
  fun_cases updateCrlEntry s loc e nc
  case case3 st d v hst _ =>
    refine fun _ => ⟨d, (stage_ok hst).1, fun e' he' => ?_⟩
    cases (lookup_write ..).symm.trans he'
    exact congrArg Store.doc (stage_ok hst).2.2.1
  all_goals nofun

/-- A rejected load or refresh (fetch failure, parse error incl. unsupported critical extension, bad signature) changes no store:
what it parsed never influences any verdict. -/
theorem rejected_load_leaves_nothing (s : State) (loc : Loc) (e : Entry) (cands : List Signer)
    (hfail : (loadCRL s loc e cands).2 = .err) : (loadCRL s loc e cands).1 = s :=
  loadCRL_err hfail

theorem rejected_refresh_keeps_store (s : State) (loc : Loc) (e : Entry) (nc : Option (List Signer))
    (hcur : lookup s.entries loc = some e)
    (hfail : (updateCrlEntry s loc e nc).2 = .err) :
    ∀ e', lookup (updateCrlEntry s loc e nc).1.entries loc = some e' → e'.store = e.store ∧ e'.loaded = e.loaded := by
  revert hfail
  fun_cases updateCrlEntry s loc e nc
  case case3 => nofun
  case case4 => intro _ e' he'; cases (lookup_setEntry ..).symm.trans he'; exact ⟨rfl, rfl⟩
  all_goals intro _ e' he'; cases hcur.symm.trans he'; exact ⟨rfl, rfl⟩

-- Non-vacuity: rejected CRL (signer 9 unknown) then genuine one: the forged entry (serial 13) never counts.
def exOps : List Op :=
  [.serve 1 (.doc ⟨7, [13], 9, 1⟩), .handshake ⟨7, 13, some 1⟩ [1], .serve 1 (.doc ⟨7, [10], 1, 2⟩), .handshake ⟨7, 13, some 1⟩ [1]]
example : isRevoked (run {} exOps) (run {} exOps).entries ⟨7, 13, some 1⟩ = .notRevoked := by decide +kernel
example : isRevoked (run {} exOps) (run {} exOps).entries ⟨7, 10, some 1⟩ = .revoked := by decide +kernel

/-! Source fingerprints (`Crv/Proofs/Skeleton.lean`) re-exported into this namespace: a change to any of the fingerprinted Go
functions breaks an obligation of this property. -/
theorem repo_sources_as_transcribed : Crv.Generated.skeletonRepo = Crv.Skeleton.expectedRepo :=
  Crv.Skeleton.repo_sources_as_transcribed

theorem store_sources_as_transcribed : Crv.Generated.skeletonStore = Crv.Skeleton.expectedStore :=
  Crv.Skeleton.store_sources_as_transcribed

end Crv.Props.C11
