import Crv.Proofs.ReaderRoundTrip
import Crv.Proofs.Skeleton
import Crv.Props.C06
import Crv.Props.C07
/-!
C17 — streaming memory bound, as far as the reader *algorithm* goes (the Go heap, GC and LevelDB buffers are
runtime; the harness measures them): every buffer the reader asks for is bounded by a constant that does not
depend on the number of entries, and the entry loop carries nothing from one entry to the next except the
stream position — the per-entry frame goes to the consumer and is dropped.
-/
namespace Crv.Props.C17
open Crv Crv.Generated

/-- Every allocation request is at most 81 937 bytes — for every input, hence for every entry count. -/
theorem request_bounded (O : Oracle) (file : Bytes) : ∀ a ∈ (readCRL O file).allocs, a.size ≤ 81937 :=
  Crv.Props.C07.alloc_bounded O file

/-- The same bound stated over documents: it does not mention the number of entries `l.length`. -/
theorem request_bounded_any_entry_count (O : Oracle) (d : Doc) (l : List Bytes) (_ : d.entries = some l) :
    ∀ a ∈ (readCRL O (enc d)).allocs, a.size ≤ 81937 :=
  request_bounded O (enc d)

/-- Loop state: after the entry loop has run over `l` (any length), the reader state differs from the state
before it only by the consumed bytes (position, hash input) and by the `insert` events handed to the consumer;
nothing else is carried along. -/
theorem entry_loop_carries_only_position (O : Oracle) (l : List Bytes)
    (hl : ∀ e ∈ l, e.length ≤ 81920 ∧ O.entryOk (seqOf e) = true) (c : Core) (t : Bytes)
    (h : c.rest = encEntries l ++ t) :
    Det (entryLoop O (c.pos + (encEntries l).length)) c ()
      { (c.after (encEntries l) t) with events := c.events ++ entryEvents l } :=
  det_entryLoop O l hl c t h

/-- The document is consumed front to back exactly once by the main pass: the final position is its length. -/
theorem single_pass (O : Oracle) (d : Doc) (oid : List Nat) (h : HashAlg) (es : Option (List Ext)) (num : Option Nat)
    (wf : WF O d oid h es num) : (readCRL O (enc d)).finalPos = (enc d).length :=
  (Crv.Props.C06.read_enc O d oid h es num wf).2.1

/-- One `insert` event per entry: the consumer (the store) sees each entry once, in order; the reader keeps none. -/
theorem one_event_per_entry (O : Oracle) (d : Doc) (oid : List Nat) (h : HashAlg) (es : Option (List Ext)) (num : Option Nat)
    (wf : WF O d oid h es num) (l : List Bytes) (hl : d.entries = some l) :
    ((readCRL O (enc d)).events.filter (fun e => match e with | .insert _ => true | _ => false)).length = l.length := by
  rw [Crv.Props.C06.entries_in_order O d oid h es num wf l hl]
  simp [List.filter_append, List.filter_map, Function.comp_def]

example : (81937 : Nat) = 81920 + 17 := rfl

/-! Source fingerprints (`Crv/Proofs/Skeleton.lean`) re-exported into this namespace: a change to any of the fingerprinted Go
functions breaks an obligation of this property. -/
theorem reader_sources_as_transcribed : Crv.Generated.skeletonReader = Crv.Skeleton.expectedReader :=
  Crv.Skeleton.reader_sources_as_transcribed

theorem chunk_sources_as_transcribed : Crv.Generated.skeletonChunk = Crv.Skeleton.expectedChunk :=
  Crv.Skeleton.chunk_sources_as_transcribed

theorem loader_sources_as_transcribed : Crv.Generated.skeletonLoader = Crv.Skeleton.expectedLoader :=
  Crv.Skeleton.loader_sources_as_transcribed

theorem store_sources_as_transcribed : Crv.Generated.skeletonStore = Crv.Skeleton.expectedStore :=
  Crv.Skeleton.store_sources_as_transcribed

theorem repo_sources_as_transcribed : Crv.Generated.skeletonRepo = Crv.Skeleton.expectedRepo :=
  Crv.Skeleton.repo_sources_as_transcribed

end Crv.Props.C17
