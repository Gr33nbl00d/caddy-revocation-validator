import Crv.Proofs.Repo
import Crv.Proofs.Skeleton
import Crv.Props.C03
import Crv.Props.C06
import Crv.Props.C18
import Crv.Props.C01E2E
/-!
C01 — CRL soundness: a certificate listed in a CRL in force is always rejected.

The statement is assembled from four layers, each proved for all inputs of its layer:
(a) reader: every entry of a well-formed CRL reaches the consumer, wherever it sits and whatever the list
    size (`Crv.Props.C06.entry_reaches_consumer`, re-exported below);
(b) store: a pair inserted into a store is never reported absent, with no collision hypothesis
    (`Crv.Props.C18.inserted_never_absent`, re-exported below);
(c) repository: in every reachable state, for every enumeration order of the repository map, a certificate
    listed in a loaded CRL is reported revoked or the lookup fails — never "not revoked" (`listed_never_not_revoked`);
(d) mode composition over the regenerated `verifyProg`: with CRL checking enabled the handshake is rejected,
    whatever OCSP answered (`listed_rejected`).
(a)→(b) are composed through the persister `Crv.Persist.writesOf` (`CRLPersisterProcessor`, `InsertRevokedCert`) in
`Crv.Props.C01.E2E` (Crv/Props/C01E2E.lean).
-/
namespace Crv.Props.C01
open Crv Crv.Repo Crv.Generated

/-- (c) Repository walk: listed in any loaded entry ⇒ never `notRevoked`, for any enumeration `order` that
covers the repository entries (Go map iteration order is arbitrary), with or without a CDP on the certificate. -/
theorem listed_never_not_revoked (s : State) (c : Cert) (order : List (Loc × Entry))
    (hcover : ∀ p ∈ s.entries, p ∈ order)
    (h : ∃ loc d, inForce s loc d ∧ d.issuer = c.issuer ∧ c.serial ∈ d.serials) :
    isRevoked s order c ≠ .notRevoked := by
  obtain ⟨loc, d, ⟨e, hmem, hl, _, hdoc⟩, hi, hs⟩ := h
  rcases isRevoked_cases s order c with h | ⟨h, -⟩ <;> rw [h]
  · nofun
  · intro hw
    have := walk_spec c order
    rw [hw] at this
    have := (this _ (hcover _ hmem)).2
    simp [hl, listed, hdoc, hi, hs] at this

def statusToMech : Status → MechOut
  | .notRevoked => .good | .revoked => .revoked | .error => .error

/-- (d) With CRL checking enabled the handshake is rejected, whatever OCSP answered, in every state reachable by
any history, for every position of the entry and every enumeration order. -/
theorem listed_rejected (cfg : Cfg) (ops : List Op) (m : Mode) (hm : crlEnabled m = true) (ocsp : MechOut)
    (c : Cert) (order : List (Loc × Entry))
    (hcover : ∀ p ∈ (run cfg ops).entries, p ∈ order)
    (h : ∃ loc d, inForce (run cfg ops) loc d ∧ d.issuer = c.issuer ∧ c.serial ∈ d.serials) :
    (verifyProg.run m (envOf ocsp (statusToMech (isRevoked (run cfg ops) order c))) true).verdict = .reject := by
  have hne := listed_never_not_revoked (run cfg ops) c order hcover h
  rw [Crv.Props.C03.verify_reject_iff]
  right
  refine ⟨by rw [← Crv.Props.C03.crlEnabled_doc]; exact hm, ?_⟩
  cases hst : isRevoked (run cfg ops) order c with
  | notRevoked => exact absurd hst hne
  | revoked => simp [statusToMech]
  | error => simp [statusToMech]

/-- The unset mode and both prefer modes enable CRL checking; so does crl_only. -/
theorem modes_enabling_crl : crlEnabled .preferOCSP = true ∧ crlEnabled .preferCRL = true ∧ crlEnabled .crlOnly = true ∧
    parseMode "" = some .preferOCSP := by decide +kernel

/-- Sources: a CRL configured by file/URL and a CRL taken from another certificate's distribution points count for
every certificate — the walk covers all entries, not only the certificate's own CDP entry. -/
theorem other_location_counts (s : State) (c : Cert) (loc : Loc) (d : DocA) (_hcdp : c.cdp ≠ some loc)
    (hf : inForce s loc d) (hi : d.issuer = c.issuer) (hs : c.serial ∈ d.serials) :
    isRevoked s s.entries c ≠ .notRevoked :=
  listed_never_not_revoked s c s.entries (fun _ hp => hp) ⟨loc, d, hf, hi, hs⟩

def reader_delivers_every_entry := @Crv.Props.C06.entry_reaches_consumer
def store_never_loses_an_insert := @Crv.Props.C18.inserted_never_absent

/-- (a)+(b) composed through the persister, re-export: reader → `CRLPersisterProcessor` → store never loses a listed entry. -/
theorem reader_persister_store (O : Oracle) (d : Doc) (oid : List Nat) (h : HashAlg) (es : Option (List Ext))
    (num : Option Nat) (wf : WF O d oid h es num) (dec : Persist.EntryDec) (sdec : Store.Kind → Store.Val → Bool)
    (l : List Bytes) (hl : d.entries = some l) (e : Bytes) (he : e ∈ l) :
    E2E.NeverAbsent sdec (Persist.writesOf dec (readCRL O (enc d)).events) (E2E.issuerOf dec d) (dec.serial (seqOf e)) :=
  E2E.listed_entry_found_der O d oid h es num wf dec sdec l hl e he

-- Non-vacuity: a concrete history after which a listed certificate is rejected.
def exOps : List Op :=
  [.serve 1 (.doc ⟨7, [10, 11, 12], 1, 5⟩), .handshake ⟨7, 99, some 1⟩ [1]]

example : inForce (run {} exOps) 1 ⟨7, [10, 11, 12], 1, 5⟩ := by
  refine ⟨_, List.mem_cons_self, ?_, ?_, ?_⟩ <;> decide +kernel

example : isRevoked (run {} exOps) (run {} exOps).entries ⟨7, 12, none⟩ = .revoked := by decide +kernel

-- … also across a restart with another signature mode (`Op.reconfigure`): the verified list is found on disk with its signer
-- certificate and stays in force, the listed certificate stays rejected.
def exOpsRestart : List Op := exOps ++ [.reconfigure .verifyLog, .handshake ⟨7, 99, some 1⟩ [], .reconfigure .verify, .handshake ⟨7, 99, some 1⟩ []]
example : inForce (run {} exOpsRestart) 1 ⟨7, [10, 11, 12], 1, 5⟩ := by decide +kernel
example : isRevoked (run {} exOpsRestart) (run {} exOpsRestart).entries ⟨7, 12, none⟩ = .revoked := by decide +kernel

/-! Source fingerprints (`Crv/Proofs/Skeleton.lean`) re-exported into this namespace: a change to any of the fingerprinted Go
functions breaks an obligation of this property. -/
theorem repo_sources_as_transcribed : Crv.Generated.skeletonRepo = Crv.Skeleton.expectedRepo :=
  Crv.Skeleton.repo_sources_as_transcribed

theorem reader_sources_as_transcribed : Crv.Generated.skeletonReader = Crv.Skeleton.expectedReader :=
  Crv.Skeleton.reader_sources_as_transcribed

theorem store_sources_as_transcribed : Crv.Generated.skeletonStore = Crv.Skeleton.expectedStore :=
  Crv.Skeleton.store_sources_as_transcribed

theorem mode_sources_as_transcribed : Crv.Generated.skeletonMode = Crv.Skeleton.expectedMode :=
  Crv.Skeleton.mode_sources_as_transcribed

theorem loader_sources_as_transcribed : Crv.Generated.skeletonLoader = Crv.Skeleton.expectedLoader :=
  Crv.Skeleton.loader_sources_as_transcribed

end Crv.Props.C01
