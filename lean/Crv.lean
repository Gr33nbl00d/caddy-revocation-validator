-- Root of the `Crv` library: models, generated facts, proofs, property theorems.
import Crv.Mode
import Crv.Generated.Mode
import Crv.Driver.Util
import Crv.Driver.Mode
import Crv.Props.C03
import Crv.Generated.Store
import Crv.Fnv
import Crv.Key
import Crv.Store
import Crv.Driver.Kv
import Crv.Proofs.ListSplit
import Crv.Proofs.StoreKey
import Crv.Proofs.StoreRefine
import Crv.Proofs.StoreLdb
import Crv.Props.C18
import Crv.Props.C09
import Crv.Paths
import Crv.Disk
import Crv.Generated.Paths
import Crv.PathsWalk
import Crv.Driver.Path
import Crv.Driver.Disk
import Crv.Proofs.Paths
import Crv.Proofs.PathsFs
import Crv.Proofs.PathsOps
import Crv.Proofs.PathsLife
import Crv.Proofs.PathsWalk
import Crv.Proofs.Disk
import Crv.Props.C20
import Crv.Props.C12
import Crv.Config
import Crv.Generated.Config
import Crv.Proofs.Config
import Crv.Proofs.ConfigClosed
import Crv.Driver.Conf
import Crv.Props.C19
import Crv.Cache
import Crv.Ocsp
import Crv.Generated.Ocsp
import Crv.Driver.Ocsp
import Crv.Proofs.OcspParse
import Crv.Proofs.OcspLookup
import Crv.Proofs.OcspCache
import Crv.Props.C02
import Crv.Props.C05
import Crv.Props.C14
import Crv.ReaderTypes
import Crv.Generated.Reader
import Crv.Reader
import Crv.Enc
import Crv.Driver.Rd
import Crv.Proofs.ReaderSafe
import Crv.Proofs.ReaderDet
import Crv.Proofs.ReaderRoundTrip
import Crv.Proofs.ReaderEnvelope
import Crv.Pem
import Crv.Chunk
import Crv.Driver.Pem
import Crv.Driver.Chunk
import Crv.Proofs.Pem
import Crv.Proofs.Chunk
import Crv.ReaderFile
import Crv.Props.C06Pem
import Crv.Props.C06Chunk
import Crv.Props.C06
import Crv.Props.C07
import Crv.Props.C17
import Crv.Generated.Repo
import Crv.Repo
import Crv.Driver.Repo
import Crv.Proofs.Repo
import Crv.Persist
import Crv.Props.C01E2E
import Crv.Props.C01
import Crv.Props.C08
import Crv.Generated.Loader
import Crv.Loader
import Crv.Driver.Loader
import Crv.Driver.Cache
import Crv.Proofs.Loader
import Crv.Props.C10Loader
import Crv.Props.C10
import Crv.Props.C11
import Crv.Props.C16
import Crv.Locks
import Crv.Sched
import Crv.Generated.Locks
import Crv.Generated.Sched
import Crv.Proofs.Locks
import Crv.Proofs.LocksMain
import Crv.Proofs.Sched
import Crv.Props.C13
import Crv.Props.C15
import Crv.Cand
import Crv.Props.C04
